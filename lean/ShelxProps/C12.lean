/-
  C12 — property theorems (model and specification: ShelxModel/C12.lean; the equations of its 3×3 operations:
  Lemmas/C12Mat.lean).

  The theorems about the formulas are over ℝ (exact arithmetic): ALL cells that satisfy `ValidCell`, ALL coordinates,
  ALL symmetric U tensors, no bound on any magnitude; `math.sqrt` is a parameter with the hypothesis `IsSqrt` (met by
  `Real.sqrt`). The coherence theorems about histories (`history_coherent`, `parse_body_coherent`,
  `file_history_coherent`, `inverse_memo_coherent`) and the `src_…` ties assume neither: any matrix or cell, any function
  for `sqrt`; validity enters in their corollaries (`…_cart`: the conventional setting; `inverse_after_history_maps_back`: a
  two-sided inverse). The `…_fails_on` witnesses, `ueq_repaired_on_witness`, `ucart_old_not_symmetric` and the
  examples on `cellW` evaluate the model in ℚ and are no instances of the ℝ theorems (see `sqrtW`); `iso_branch_only_iso`
  is about the six file values, in ℚ.
  Not proved: rounding of IEEE doubles (every case of a run is compared at 1e-9), and the convergence of the QR
  iteration `misc.eigenvals`, which `is_npd` does not use after fixes/C12_3.
-/
import ShelxModel.C12
import ShelxModel.Extracted.C12Src
import ShelxProps.Lemmas.C12Mat
import Mathlib.Tactic.Ring
import Mathlib.Tactic.FieldSimp
import Mathlib.Tactic.LinearCombination
import Mathlib.Tactic.NormNum
import Mathlib.Tactic.Positivity
import Mathlib.Data.Real.Basic
import Mathlib.Analysis.Real.Sqrt
import Mathlib.Analysis.SpecialFunctions.Trigonometric.Basic

namespace Shelx.C12

/-- all that the theorems use of `math.sqrt` -/
def IsSqrt (sqrt : ℝ → ℝ) : Prop := ∀ t, 0 ≤ t → sqrt t * sqrt t = t ∧ 0 ≤ sqrt t

example : IsSqrt Real.sqrt := fun t ht => ⟨Real.mul_self_sqrt ht, Real.sqrt_nonneg t⟩

/-- the hypothesis on the cell wherever one is made: positive lengths, positive sines with sin² + cos² = 1 (angles
    strictly between 0 and π: `validCell_of_angles`), positive volume radicand -/
structure ValidCell (c : Cell ℝ) : Prop where
  ha : 0 < c.a
  hb : 0 < c.b
  hc : 0 < c.c
  hsa : 0 < c.sa
  hsb : 0 < c.sb
  hsg : 0 < c.sg
  ea : c.sa * c.sa + c.ca * c.ca = 1
  eb : c.sb * c.sb + c.cb * c.cb = 1
  eg : c.sg * c.sg + c.cg * c.cg = 1
  hD : 0 < volRadicand c

/-- the cell the code builds from the six CELL numbers (angles in radians here) -/
noncomputable def cellOfAngles (a b c al be ga : ℝ) : Cell ℝ :=
  ⟨a, b, c, Real.cos al, Real.cos be, Real.cos ga, Real.sin al, Real.sin be, Real.sin ga⟩

/-- `ValidCell` is what real cosines and sines of angles strictly between 0 and π give; the volume radicand is the only
    condition that restricts the three angles jointly -/
theorem validCell_of_angles (a b c al be ga : ℝ) (ha : 0 < a) (hb : 0 < b) (hc : 0 < c)
    (hal : 0 < al ∧ al < Real.pi) (hbe : 0 < be ∧ be < Real.pi) (hga : 0 < ga ∧ ga < Real.pi)
    (hD : 0 < volRadicand (cellOfAngles a b c al be ga)) : ValidCell (cellOfAngles a b c al be ga) where
  ha := ha
  hb := hb
  hc := hc
  hsa := Real.sin_pos_of_pos_of_lt_pi hal.1 hal.2
  hsb := Real.sin_pos_of_pos_of_lt_pi hbe.1 hbe.2
  hsg := Real.sin_pos_of_pos_of_lt_pi hga.1 hga.2
  ea := by simp only [cellOfAngles, ← sq, Real.sin_sq_add_cos_sq]
  eb := by simp only [cellOfAngles, ← sq, Real.sin_sq_add_cos_sq]
  eg := by simp only [cellOfAngles, ← sq, Real.sin_sq_add_cos_sq]
  hD := hD

theorem sqrt_unique {sqrt : ℝ → ℝ} (hs : IsSqrt sqrt) {t r : ℝ} (hr : 0 ≤ r) (h : r * r = t) : sqrt t = r := by
  obtain ⟨h1, h2⟩ := hs t (h ▸ mul_self_nonneg r)
  exact (mul_self_inj h2 hr).mp (h1.trans h.symm)

theorem volume_sq {sqrt : ℝ → ℝ} (hs : IsSqrt sqrt) (c : Cell ℝ) (h : ValidCell c) :
    volume sqrt c * volume sqrt c = (c.a * c.b * c.c) * (c.a * c.b * c.c) * volRadicand c := by
  obtain ⟨h1, _⟩ := hs _ h.hD.le
  unfold volume
  linear_combination (c.a * c.b * c.c) * (c.a * c.b * c.c) * h1

theorem volume_pos {sqrt : ℝ → ℝ} (hs : IsSqrt sqrt) (c : Cell ℝ) (h : ValidCell c) : 0 < volume sqrt c := by
  obtain ⟨h1, h2⟩ := hs _ h.hD.le
  have h3 : 0 < sqrt (volRadicand c) := h2.lt_of_ne' (mul_self_pos.mp (h1.symm ▸ h.hD))
  exact mul_pos (mul_pos (mul_pos h.ha h.hb) h.hc) h3

/-- the conventional setting: a along x, b in the xy plane with positive y, c with positive z -/
theorem ortho_upper {sqrt : ℝ → ℝ} (hs : IsSqrt sqrt) (c : Cell ℝ) (h : ValidCell c) :
    let m := orthoM sqrt c
    m.r1.x = 0 ∧ m.r2.x = 0 ∧ m.r2.y = 0 ∧ m.r0.x = c.a ∧ 0 < m.r1.y ∧ 0 < m.r2.z ∧
    mulVec m ⟨1, 0, 0⟩ = ⟨c.a, 0, 0⟩ ∧ (mulVec m ⟨0, 1, 0⟩).z = 0 ∧ 0 < (mulVec m ⟨0, 1, 0⟩).y := by
  have hb := mul_pos h.hb h.hsg
  have hc := div_pos (volume_pos hs c h) (mul_pos (mul_pos h.ha h.hb) h.hsg)
  simp only [orthoM, mulVec, dot, mul_one, mul_zero, add_zero, zero_add, true_and]
  exact ⟨hb, hc, hb⟩

/-- the code's `metric_matrix` (`Mᵀ·M`) is the metric tensor `G_ij = a_i·a_j` -/
theorem ortho_gram {sqrt : ℝ → ℝ} (hs : IsSqrt sqrt) (c : Cell ℝ) (h : ValidCell c) :
    metricCode sqrt c = metric c := by
  have hV2 := volume_sq hs c h
  have ha := h.ha; have hb := h.hb; have hsg := h.hsg
  simp only [metricCode, mulMM, mulRR, transpose, col0, col1, col2, orthoM, dot, metric, volRadicand, mul_zero, zero_mul,
    add_zero] at hV2 ⊢
  generalize volume sqrt c = V at hV2 ⊢
  -- entry by entry (a·a is literal): the products with a are as they stand; b·b and b·c need sin²γ + cos²γ = 1 and
  -- sin γ ≠ 0, c·c needs V² as well
  congr 1 <;> congr 1
  · ring1
  · ring1
  · ring1
  · linear_combination c.b * c.b * h.eg
  · field_simp; ring1
  · ring1
  · field_simp; ring1
  · field_simp
    linear_combination hV2 + c.a ^ 2 * c.b ^ 2 * c.c ^ 2 * (c.cb ^ 2 - 1) * h.eg

/-- lengths from Cartesian coordinates equal lengths from the metric tensor -/
theorem ortho_metric {sqrt : ℝ → ℝ} (hs : IsSqrt sqrt) (c : Cell ℝ) (h : ValidCell c) (x : V3 ℝ) :
    norm2 (mulVec (orthoM sqrt c) x) = quad (metric c) x := by
  rw [norm2_mulVec, ← ortho_gram hs c h]; rfl

/-- `det M` is the code's `CELL.volume` / `vol_unitcell` -/
theorem ortho_det {sqrt : ℝ → ℝ} (c : Cell ℝ) (h : ValidCell c) : det (orthoM sqrt c) = volume sqrt c := by
  have ha := h.ha; have hb := h.hb; have hsg := h.hsg
  simp only [det, orthoM, zero_mul, sub_zero, add_zero]
  field_simp

theorem volume_metric {sqrt : ℝ → ℝ} (hs : IsSqrt sqrt) (c : Cell ℝ) (h : ValidCell c) :
    volume sqrt c * volume sqrt c = gramDet (metric c) ∧ 0 < volume sqrt c := by
  refine ⟨?_, volume_pos hs c h⟩
  rw [volume_sq hs c h]
  simp only [gramDet, metric, volRadicand]; ring

theorem ortho_det_ne {sqrt : ℝ → ℝ} (hs : IsSqrt sqrt) (c : Cell ℝ) (h : ValidCell c) : det (orthoM sqrt c) ≠ 0 := by
  rw [ortho_det c h]; exact (volume_pos hs c h).ne'

/-- `Matrix.inversed` (the cofactor formula as coded) of `M` is its inverse on both sides -/
theorem ortho_inverse {sqrt : ℝ → ℝ} (hs : IsSqrt sqrt) (c : Cell ℝ) (h : ValidCell c) :
    mulMM (orthoM sqrt c) (inversed (orthoM sqrt c)) = one3 ∧
    mulMM (inversed (orthoM sqrt c)) (orthoM sqrt c) = one3 ∧
    (∀ x, mulVec (inversed (orthoM sqrt c)) (mulVec (orthoM sqrt c) x) = x) ∧
    (∀ y, mulVec (orthoM sqrt c) (mulVec (inversed (orthoM sqrt c)) y) = y) := by
  have hd := ortho_det_ne hs c h
  exact ⟨mul_inversed _ hd, inversed_mul _ hd, mulVec_cancel (inversed_mul _ hd), mulVec_cancel (mul_inversed _ hd)⟩

/-- `sinastar` of misc.frac_to_cart / misc.cart_to_frac -/
theorem sinAstar_eq {sqrt : ℝ → ℝ} (hs : IsSqrt sqrt) (c : Cell ℝ) (h : ValidCell c) :
    sqrt (1 - cosAstar c * cosAstar c) = volume sqrt c / (c.a * c.b * c.c * c.sb * c.sg) := by
  have hV2 := volume_sq hs c h
  have hV := volume_pos hs c h
  have ha := h.ha; have hb := h.hb; have hc := h.hc; have hsb := h.hsb; have hsg := h.hsg
  apply sqrt_unique hs (by positivity)
  simp only [cosAstar, volRadicand] at hV2 ⊢
  field_simp
  linear_combination hV2 - c.a ^ 2 * c.b ^ 2 * c.c ^ 2 * (c.sb ^ 2 * h.eg + (1 - c.cg ^ 2) * h.eb)

/-- the stand-alone conversion `misc.frac_to_cart` (route via cos α*) equals `M x` -/
theorem frac_to_cart_agrees {sqrt : ℝ → ℝ} (hs : IsSqrt sqrt) (c : Cell ℝ) (h : ValidCell c) (x : V3 ℝ) :
    fracToCartMisc sqrt c x = mulVec (orthoM sqrt c) x := by
  have ha := h.ha; have hb := h.hb; have hc := h.hc; have hsb := h.hsb; have hsg := h.hsg
  simp only [fracToCartMisc, mulVec, orthoM, dot, sinAstar_eq hs c h]
  simp only [cosAstar]
  congr 1 <;> field_simp <;> ring1

/-- `misc.cart_to_frac` is back substitution in the triangular system of `misc.frac_to_cart`, whose diagonal
    `a, b sin γ, c sin β sin α*` is not zero -/
theorem cart_frac_left {sqrt : ℝ → ℝ} (hs : IsSqrt sqrt) (c : Cell ℝ) (h : ValidCell c) (x : V3 ℝ) :
    cartToFracMisc sqrt c (fracToCartMisc sqrt c x) = x := by
  have h0 := h.ha.ne'
  have h1 : c.b * c.sg ≠ 0 := (mul_pos h.hb h.hsg).ne'
  have h2 : c.c * c.sb * sqrt (1 - cosAstar c * cosAstar c) ≠ 0 := by
    rw [sinAstar_eq hs c h]
    exact (mul_pos (mul_pos h.hc h.hsb) (div_pos (volume_pos hs c h)
      (mul_pos (mul_pos (mul_pos (mul_pos h.ha h.hb) h.hc) h.hsb) h.hsg))).ne'
  have e : ∀ p q r : ℝ, p + q + r - q - r = p := fun p q r => by ring
  simp only [fracToCartMisc, cartToFracMisc, zero_add, mul_div_cancel_left₀ _ h2, add_sub_cancel_right,
    mul_div_cancel_left₀ _ h1, e, mul_div_cancel_left₀ _ h0]

/-- `misc.cart_to_frac` agrees with `Matrix.inversed` of `M` -/
theorem cart_to_frac_agrees {sqrt : ℝ → ℝ} (hs : IsSqrt sqrt) (c : Cell ℝ) (h : ValidCell c) (q : V3 ℝ) :
    cartToFracMisc sqrt c q = mulVec (inversed (orthoM sqrt c)) q := by
  have := cart_frac_left hs c h (mulVec (inversed (orthoM sqrt c)) q)
  rwa [frac_to_cart_agrees hs c h, (ortho_inverse hs c h).2.2.2] at this

theorem cart_frac_inverse {sqrt : ℝ → ℝ} (hs : IsSqrt sqrt) (c : Cell ℝ) (h : ValidCell c) :
    (∀ x, cartToFracMisc sqrt c (fracToCartMisc sqrt c x) = x) ∧
    (∀ q, fracToCartMisc sqrt c (cartToFracMisc sqrt c q) = q) :=
  ⟨cart_frac_left hs c h, fun q => by
    rw [cart_to_frac_agrees hs c h, frac_to_cart_agrees hs c h, (ortho_inverse hs c h).2.2.2]⟩

theorem atomicDistSq_eq_quad (c : Cell ℝ) (d : V3 ℝ) : atomicDistSq c d = quad (metric c) d := by
  simp only [atomicDistSq, quad, metric, mulVec, dot]; ring

/-- `atomic_distance(p1, p2, cell)` is the Euclidean distance of the Cartesian images,
    and its square the metric form of the fractional difference -/
theorem distance_agrees {sqrt : ℝ → ℝ} (hs : IsSqrt sqrt) (c : Cell ℝ) (h : ValidCell c) (p1 p2 : V3 ℝ) :
    atomicDistance sqrt c p1 p2 = sqrt (norm2 (vsub (mulVec (orthoM sqrt c) p1) (mulVec (orthoM sqrt c) p2))) ∧
    atomicDistance sqrt c p1 p2 * atomicDistance sqrt c p1 p2 = quad (metric c) (vsub p1 p2) ∧
    0 ≤ atomicDistance sqrt c p1 p2 := by
  have e : atomicDistSq c (vsub p1 p2) = norm2 (mulVec (orthoM sqrt c) (vsub p1 p2)) := by
    rw [atomicDistSq_eq_quad, ortho_metric hs c h]
  have hnn : 0 ≤ atomicDistSq c (vsub p1 p2) := by
    rw [e]; simp only [norm2, dot]
    exact add_nonneg (add_nonneg (mul_self_nonneg _) (mul_self_nonneg _)) (mul_self_nonneg _)
  obtain ⟨h1, h2⟩ := hs _ hnn
  refine ⟨?_, ?_, h2⟩
  · unfold atomicDistance; rw [e, mulVec_vsub]
  · unfold atomicDistance; rw [h1, atomicDistSq_eq_quad]

theorem cholUpper_gram {sqrt : ℝ → ℝ} (hs : IsSqrt sqrt) (t : M3 ℝ)
    (ht : t.r1.x = 0 ∧ t.r2.x = 0 ∧ t.r2.y = 0 ∧ 0 < t.r0.x ∧ 0 < t.r1.y ∧ 0 < t.r2.z) :
    cholUpper sqrt (mulMM (transpose t) t) = t := by
  obtain ⟨⟨t00, t01, t02⟩, ⟨t10, t11, t12⟩, ⟨t20, t21, t22⟩⟩ := t
  obtain ⟨rfl, rfl, rfl, p0, p1, p2⟩ := ht
  have h00 : sqrt (t00 * t00) = t00 := sqrt_unique hs p0.le rfl
  have h11 : sqrt (t11 * t11) = t11 := sqrt_unique hs p1.le rfl
  have h22 : sqrt (t22 * t22) = t22 := sqrt_unique hs p2.le rfl
  have e : ∀ a b c : ℝ, a + b + c - a - b = c := fun a b c => by ring
  simp only [cholUpper, mulMM, mulRR, transpose, col0, col1, col2, dot, mul_zero, zero_mul, add_zero, h00,
    mul_div_cancel_left₀ _ p0.ne', add_sub_cancel_left, h11, mul_div_cancel_left₀ _ p1.ne', e, h22]

/-- the Cholesky recipe on `G` (the driver's oracle for Cartesian coordinates) gives `M` -/
theorem ortho_is_cholesky {sqrt : ℝ → ℝ} (hs : IsSqrt sqrt) (c : Cell ℝ) (h : ValidCell c) :
    cholUpper sqrt (metric c) = orthoM sqrt c := by
  obtain ⟨u1, u2, u3, u4, u5, u6, -⟩ := ortho_upper hs c h
  rw [← ortho_gram hs c h]
  exact cholUpper_gram hs _ ⟨u1, u2, u3, u4 ▸ h.ha, u5, u6⟩

/-- `M` is THE matrix of the conventional setting (a along x, b in the xy plane with positive y,
    right-handed) -/
theorem ortho_unique {sqrt : ℝ → ℝ} (hs : IsSqrt sqrt) (c : Cell ℝ) (h : ValidCell c) (t : M3 ℝ)
    (ht : t.r1.x = 0 ∧ t.r2.x = 0 ∧ t.r2.y = 0 ∧ 0 < t.r0.x ∧ 0 < t.r1.y ∧ 0 < t.r2.z)
    (hg : mulMM (transpose t) t = metric c) : t = orthoM sqrt c := by
  rw [← ortho_is_cholesky hs c h, ← hg, cholUpper_gram hs t ht]

/-- `CELL.astar, bstar, cstar` are the positive roots of the diagonal of `G⁻¹` -/
theorem recip_spec {sqrt : ℝ → ℝ} (hs : IsSqrt sqrt) (c : Cell ℝ) (h : ValidCell c) :
    let n := recip sqrt c
    let q := recipSqSpec (metric c)
    n.x * n.x = q.x ∧ n.y * n.y = q.y ∧ n.z * n.z = q.z ∧ 0 < n.x ∧ 0 < n.y ∧ 0 < n.z := by
  obtain ⟨hV2, hV⟩ := volume_metric hs c h
  have ha := h.ha; have hb := h.hb; have hc := h.hc; have hsa := h.hsa; have hsb := h.hsb; have hsg := h.hsg
  simp only [recip, recipSqSpec, ← hV2]
  refine ⟨?_, ?_, ?_, by positivity, by positivity, by positivity⟩
  -- `metric` is unfolded only once `gramDet (metric c)` is folded to `V * V`: in the `simp only` above it breaks `← hV2`
  · simp only [metric]
    field_simp
    linear_combination h.ea
  · simp only [metric]
    field_simp
    linear_combination h.eb
  · simp only [metric]
    field_simp
    linear_combination h.eg

theorem ueq_generic (m : M3 ℝ) (n : V3 ℝ) (u : U6 ℝ) :
    trace (ucart m (diag n) (ucif u)) / 3 = ueqSpec (mulMM (transpose m) m) n u := by
  obtain ⟨⟨m00, m01, m02⟩, ⟨m10, m11, m12⟩, ⟨m20, m21, m22⟩⟩ := m
  simp only [trace, ucart, ustar, diag, ucif, mulMM, mulRR, transpose, col0, col1, col2, dot, ueqSpec, zero_mul, mul_zero,
    add_zero, zero_add]
  ring

/-- `Atom.ueq` of an anisotropic atom, one third of the trace of the Cartesian tensor (repaired chain
    `U_cart = M N U N Mᵀ`, fixes/C12_1), is the IUCr `Ueq = ⅓ Σ_ij U_ij a*_i a*_j (a_i·a_j)` -/
theorem ueq_is_third_trace {sqrt : ℝ → ℝ} (hs : IsSqrt sqrt) (c : Cell ℝ) (h : ValidCell c) (u : U6 ℝ) :
    ueqAniso sqrt c u = ueqSpec (metric c) (recip sqrt c) u := by
  rw [← ortho_gram hs c h]
  exact ueq_generic _ _ _

theorem ueq_old_generic (m : M3 ℝ) (n : V3 ℝ) (u : U6 ℝ) :
    trace (ucartOld m (diag n) (ucif u)) / 3 = ueqOldFormula (mulMM (transpose m) m) n u := by
  obtain ⟨⟨m00, m01, m02⟩, ⟨m10, m11, m12⟩, ⟨m20, m21, m22⟩⟩ := m
  simp only [trace, ucartOld, ustarOld, diag, ucif, mulMM, mulRR, transpose, col0, col1, col2, dot, ueqOldFormula, mul_zero,
    add_zero, zero_add]
  ring

/-- the value `Atom.ueq` had before fixes/C12_1, and its distance from the IUCr value -/
theorem ueq_old_value {sqrt : ℝ → ℝ} (hs : IsSqrt sqrt) (c : Cell ℝ) (h : ValidCell c) (u : U6 ℝ) :
    let n := recip sqrt c
    let g := metric c
    ueqAnisoOld sqrt c u = ueqOldFormula g n u ∧
    ueqAnisoOld sqrt c u - ueqSpec g n u =
      (u.u23 * g.r1.z * ((n.y - n.z) * (n.y - n.z)) + u.u13 * g.r0.z * ((n.x - n.z) * (n.x - n.z))
        + u.u12 * g.r0.y * ((n.x - n.y) * (n.x - n.y))) / 3 := by
  have e : ueqAnisoOld sqrt c u = ueqOldFormula (metric c) (recip sqrt c) u := by
    rw [← ortho_gram hs c h]; exact ueq_old_generic _ _ _
  refine ⟨e, ?_⟩
  rw [e]; simp only [ueqOldFormula, ueqSpec]; ring

theorem ueq_old_right_if_orthogonal {sqrt : ℝ → ℝ} (hs : IsSqrt sqrt) (c : Cell ℝ) (h : ValidCell c) (u : U6 ℝ)
    (ho : c.ca = 0 ∧ c.cb = 0 ∧ c.cg = 0) : ueqAnisoOld sqrt c u = ueqSpec (metric c) (recip sqrt c) u := by
  rw [← sub_eq_zero, (ueq_old_value hs c h u).2]
  simp only [metric, ho.1, ho.2.1, ho.2.2, mul_zero, zero_mul, add_zero, zero_div]

/-- positive definite as a quadratic form (`quad m x` = xᵀ m x); symmetry of `m` is not part of it -/
def PosDef (m : M3 ℝ) : Prop := ∀ x : V3 ℝ, x ≠ ⟨0, 0, 0⟩ → 0 < quad m x

/-- positive definiteness is kept by a congruence `u ↦ a u aᵀ` with `det a ≠ 0` -/
theorem posdef_congr (a u : M3 ℝ) (hd : det a ≠ 0) : PosDef u ↔ PosDef (mulMM (mulMM a u) (transpose a)) := by
  have hdt : det (transpose a) ≠ 0 := by rwa [det_transpose]
  constructor
  · intro hp x hx
    rw [quad_congruence]
    exact hp _ (mulVec_ne_zero (inversed_mul _ hdt) hx)
  · intro hp y hy
    have := hp _ (mulVec_ne_zero (mul_inversed _ hdt) hy)
    rwa [quad_congruence, mulVec_cancel (mul_inversed _ hdt)] at this

theorem sylvester (u : U6 ℝ) :
    PosDef (ucif u) ↔ 0 < (minors u).x ∧ 0 < (minors u).y ∧ 0 < (minors u).z := by
  obtain ⟨u11, u22, u33, u23, u13, u12⟩ := u
  simp only [minors, PosDef, quad, ucif, mulVec, dot]
  constructor
  · intro hp
    -- the form is u11 at e₁, u11·d₂ at (−u12, u11, 0) and d₂·d₃ at the last column of the adjugate
    have h1 : 0 < u11 := by
      linear_combination hp ⟨1, 0, 0⟩ (by simp)
    have h2 : 0 < u11 * u22 - u12 * u12 := by
      refine pos_of_mul_pos_right (a := u11) ?_ h1.le
      linear_combination hp ⟨-u12, u11, 0⟩ (by simp [h1.ne'])
    refine ⟨h1, h2, pos_of_mul_pos_right (a := u11 * u22 - u12 * u12) ?_ h2.le⟩
    linear_combination hp ⟨u12 * u23 - u13 * u22, u12 * u13 - u11 * u23, u11 * u22 - u12 * u12⟩ (by simp [h2.ne'])
  · rintro ⟨h1, h2, h3⟩ ⟨x, y, z⟩ hx
    -- completing the squares: u11·d₂·q = d₂·L₁² + L₂² + u11·d₃·z², and one of the three is positive:
    -- the last if z ≠ 0, else L₂ = d₂·y if y ≠ 0, else L₁ = u11·x
    have t1 := mul_nonneg h2.le (mul_self_nonneg (u11 * x + u12 * y + u13 * z))
    have t2 := mul_self_nonneg ((u11 * u22 - u12 * u12) * y + (u11 * u23 - u12 * u13) * z)
    have t3 := mul_nonneg (mul_pos h1 h3).le (mul_self_nonneg z)
    refine pos_of_mul_pos_right (a := u11 * (u11 * u22 - u12 * u12)) ?_ (mul_pos h1 h2).le
    rcases eq_or_ne z 0 with rfl | hz
    · rcases eq_or_ne y 0 with rfl | hy
      · have hx0 : x ≠ 0 := fun h0 => hx (by rw [h0])
        linear_combination t2 + t3 + mul_pos h2 (mul_self_pos.mpr (mul_ne_zero h1.ne' hx0))
      · linear_combination t1 + t3 + mul_self_pos.mpr (mul_ne_zero h2.ne' hy)
    · linear_combination t1 + t2 + mul_pos (mul_pos h1 h3) (mul_self_pos.mpr hz)

theorem exists_ucif (m : M3 ℝ) (hsym : transpose m = m) : ∃ u, m = ucif u := by
  obtain ⟨⟨m00, m01, m02⟩, ⟨m10, m11, m12⟩, ⟨m20, m21, m22⟩⟩ := m
  simp only [transpose, col0, col1, col2, M3.mk.injEq, V3.mk.injEq] at hsym
  obtain ⟨⟨-, rfl, rfl⟩, ⟨-, -, rfl⟩, -⟩ := hsym
  exact ⟨⟨m00, m11, m22, m21, m20, m10⟩, rfl⟩

theorem sylvester_sym (m : M3 ℝ) (hsym : transpose m = m) :
    PosDef m ↔ 0 < (npdMinors m).x ∧ 0 < (npdMinors m).y ∧ 0 < (npdMinors m).z := by
  obtain ⟨u, rfl⟩ := exists_ucif m hsym
  exact sylvester u

/-- ⇐ is Sylvester on the three leading minors; ⇒ says the four extra tests of fixes/C12_5 never reject a positive
    definite tensor -/
theorem principal_minors_iff (m : M3 ℝ) (hsym : transpose m = m) :
    PosDef m ↔ ∀ x ∈ principalMinors m, 0 < x := by
  rw [sylvester_sym m hsym]
  obtain ⟨⟨u11, u22, u33, u23, u13, u12⟩, rfl⟩ := exists_ucif m hsym
  simp only [principalMinors, npdMinors, ucif, List.forall_mem_cons, List.not_mem_nil, false_imp_iff, implies_true,
    and_true]
  refine ⟨fun hl => ?_, fun ha => ⟨ha.1, ha.2.2.2.1, ha.2.2.2.2.2.2⟩⟩
  have hp := (sylvester ⟨u11, u22, u33, u23, u13, u12⟩).mpr hl
  obtain ⟨h1, h2, h3⟩ := hl
  simp only [PosDef, quad, ucif, mulVec, dot] at hp
  -- the form is u22 at e₂, u33 at e₃, u11·(u11·u33 − u13²) at (−u13, 0, u11),
  -- u22·(u22·u33 − u23²) at (0, −u23, u22)
  have p22 : 0 < u22 := by linear_combination hp ⟨0, 1, 0⟩ (by simp)
  have p33 : 0 < u33 := by linear_combination hp ⟨0, 0, 1⟩ (by simp)
  refine ⟨h1, p22, p33, h2, pos_of_mul_pos_right (a := u11) ?_ h1.le, pos_of_mul_pos_right (a := u22) ?_ p22.le, h3⟩
  · linear_combination hp ⟨-u13, 0, u11⟩ (by simp [h1.ne'])
  · linear_combination hp ⟨0, -u23, u22⟩ (by simp [p22.ne'])

/-- the repaired chain is ONE congruence `A U Aᵀ` with `A = M·N` -/
theorem ucart_assoc (m n u : M3 ℝ) :
    ucart m n u = mulMM (mulMM (mulMM m n) u) (transpose (mulMM m n)) := by
  simp only [ucart, ustar, transpose_mulMM, mulMM_assoc]

theorem ucart_symm (m n u : M3 ℝ) (hu : transpose u = u) : transpose (ucart m n u) = ucart m n u := by
  rw [ucart_assoc, transpose_congruence, hu]

/-- "U_cart is positive definite" is a statement about the six file values alone, whatever the
    (valid) cell -/
theorem ucart_posdef_iff {sqrt : ℝ → ℝ} (hs : IsSqrt sqrt) (c : Cell ℝ) (h : ValidCell c) (u : U6 ℝ) :
    PosDef (ucart (orthoM sqrt c) (nMat sqrt c) (ucif u)) ↔
      0 < (minors u).x ∧ 0 < (minors u).y ∧ 0 < (minors u).z := by
  rw [← sylvester, ucart_assoc]
  symm
  apply posdef_congr
  rw [det_mulMM, nMat, det_diag]
  obtain ⟨_, _, _, n1, n2, n3⟩ := recip_spec hs c h
  exact mul_ne_zero (ortho_det_ne hs c h) (by positivity)

/-- the file values (decimal numbers) as reals -/
def castU (u : U6 ℚ) : U6 ℝ := ⟨u.u11, u.u22, u.u33, u.u23, u.u13, u.u12⟩

/-- the exact decision the harness uses as oracle (`sylvesterPD`, computed by the driver in `Rat` on
    the decimal file values) is false exactly when the atom's Cartesian U tensor is not positive definite -/
theorem npd_iff {sqrt : ℝ → ℝ} (hs : IsSqrt sqrt) (c : Cell ℝ) (h : ValidCell c) (u : U6 ℚ) :
    sylvesterPD u = false ↔ ¬ PosDef (ucart (orthoM sqrt c) (nMat sqrt c) (ucif (castU u))) := by
  rw [ucart_posdef_iff hs c h, ← Bool.not_eq_true, not_iff_not]
  -- both sides are the same three inequalities, in ℚ and cast to ℝ
  simp only [sylvesterPD, Bool.and_eq_true, decide_eq_true_eq, and_assoc, minors, castU, ← Rat.cast_pos (K := ℝ)]
  push_cast
  rfl

/-- `Atom.is_npd` after fixes/C12_3 (the three leading minors of `u_cart`; since fixes/C12_5 the code tests all seven
    principal minors, which is `is_npd_principal_iff`), in exact arithmetic, reports the atom non-positive-definite
    exactly when its Cartesian U tensor is not positive definite, and that is exactly when Sylvester's test fails on the
    six file values -/
theorem is_npd_iff {sqrt : ℝ → ℝ} (hs : IsSqrt sqrt) (c : Cell ℝ) (h : ValidCell c) (u : U6 ℝ) :
    let mn := npdMinors (ucart (orthoM sqrt c) (nMat sqrt c) (ucif u))
    ((¬ (0 < mn.x ∧ 0 < mn.y ∧ 0 < mn.z)) ↔ ¬ PosDef (ucart (orthoM sqrt c) (nMat sqrt c) (ucif u))) ∧
    ((¬ (0 < mn.x ∧ 0 < mn.y ∧ 0 < mn.z)) ↔ ¬ PosDef (ucif u)) ∧
    ((¬ (0 < mn.x ∧ 0 < mn.y ∧ 0 < mn.z)) ↔ ¬ (0 < (minors u).x ∧ 0 < (minors u).y ∧ 0 < (minors u).z)) := by
  have e1 := sylvester_sym _ (ucart_symm (orthoM sqrt c) (nMat sqrt c) (ucif u) rfl)
  have e2 := ucart_posdef_iff hs c h u
  exact ⟨not_congr e1.symm, by rw [← e1, e2, ← sylvester], by rw [← e1, e2]⟩

/-- `is_npd_iff` for `Atom.is_npd` after fixes/C12_5 (all seven principal minors of `u_cart`) -/
theorem is_npd_principal_iff {sqrt : ℝ → ℝ} (hs : IsSqrt sqrt) (c : Cell ℝ) (h : ValidCell c) (u : U6 ℝ) :
    let uc := ucart (orthoM sqrt c) (nMat sqrt c) (ucif u)
    ((¬ ∀ x ∈ principalMinors uc, 0 < x) ↔ ¬ PosDef uc) ∧
    ((¬ ∀ x ∈ principalMinors uc, 0 < x) ↔ ¬ (0 < (minors u).x ∧ 0 < (minors u).y ∧ 0 < (minors u).z)) := by
  have e1 := principal_minors_iff _ (ucart_symm (orthoM sqrt c) (nMat sqrt c) (ucif u) rfl)
  exact ⟨not_congr e1.symm, by rw [← e1, ucart_posdef_iff hs c h u]⟩

/-! ### a triclinic cell with rational cosines and sines, on which the model functions are evaluated in ℚ -/

/-- volume radicand 144/4225 = (12/65)² -/
def cellW : Cell ℚ := ⟨5, 6, 7, 3/5, 4/5, 12/13, 4/5, 3/5, 5/13⟩
/-- a one-point stand-in for `math.sqrt`: right at the volume radicand of `cellW`, 0 elsewhere. It is NOT an `IsSqrt`, so
    what is stated with `sqrtW`, `cellW`, `uW` below evaluates the model functions in ℚ, outside the hypotheses of the ℝ
    theorems and not as an instance of them. These evaluations reach `sqrt` through `volume` only, and the radicand
    depends on the cosines alone (so `{ cellW with a := 9 }` has the same). That the ℝ hypotheses can be met is
    `IsSqrt Real.sqrt` above and the next example. -/
def sqrtW : ℚ → ℚ := fun t => if t = 144/4225 then 12/65 else 0
def uW : U6 ℚ := ⟨3/100, 4/100, 5/100, 1/100, -12/1000, 8/1000⟩

-- the numbers of `cellW`, typed again as reals
example : ValidCell ⟨5, 6, 7, 3/5, 4/5, 12/13, 4/5, 3/5, 5/13⟩ := by
  constructor <;> norm_num [volRadicand]

example : volRadicand cellW = 144/4225 ∧ volume sqrtW cellW = 504/13 := by decide +kernel

/-- the claim of `ueq_is_third_trace` made of the chain before fixes/C12_1 (`ueqAnisoOld`), for the witness cell alone and
    in ℚ; `ueq_old_fails_on` refutes it at `uW` -/
def UeqOldStatement : Prop :=
  ∀ u : U6 ℚ, ueqAnisoOld sqrtW cellW u = ueqSpec (metric cellW) (recip sqrtW cellW) u

/-- before fixes/C12_1 (`ustar = ucif * N * N.T`, `u_cart = ustar * o * o.T`, rows×rows products) the trace/3 is NOT the
    IUCr Ueq on the triclinic witness, while that of the repaired chain is -/
theorem ueq_old_fails_on : ¬ UeqOldStatement := fun hst => absurd (hst uW) (by decide +kernel)

theorem ueq_repaired_on_witness : ueqAniso sqrtW cellW uW = ueqSpec (metric cellW) (recip sqrtW cellW) uW := by
  decide +kernel

/-- the old `u_cart` of the witness is not even symmetric, so `is_npd` asked for the eigenvalues of a matrix that is no
    displacement tensor -/
theorem ucart_old_not_symmetric :
    (ucartOld (orthoM sqrtW cellW) (nMat sqrtW cellW) (ucif uW)).r0.y ≠
    (ucartOld (orthoM sqrtW cellW) (nMat sqrtW cellW) (ucif uW)).r1.x := by
  decide +kernel

/-- the isotropic/Q-peak branch of `set_ueq` as repaired by fixes/C12_2 (`uvals[0] > 0 and not any(uvals[2:])`) never takes
    an anisotropically written atom -/
theorem iso_branch_only_iso (u : U6 ℚ) (ha : anisoWritten u = true) : isoBranch u = false := by
  simp only [anisoWritten, Bool.not_eq_true'] at ha
  simp [isoBranch, ha]

/-- before the repair (`not sum(uvals[2:])`) it did: U33 + U23 + U13 + U12 = 0 with six values written -/
theorem iso_branch_old_fails_on :
    ¬ (∀ u : U6 ℚ, anisoWritten u = true → isoBranchOld u = false) := fun hst =>
  absurd (hst ⟨5/100, 5/100, 2/100, -1/100, -1/100, 0⟩ (by decide +kernel)) (by decide +kernel)

theorem applyEdit_cart (m : M3 ℝ) (s : AtomSt ℝ) (e : Edit ℝ) (h0 : s.cart = mulVec m s.frac) :
    (applyEdit m s e).cart = mulVec m (applyEdit m s e).frac := by
  cases e with
  | setFrac p => rfl
  | _ => exact h0

/-- after ANY sequence of the public edits, on an atom that was parsed or created with `add_atom` (`h0`), the cached
    Cartesian coordinates are those of the CURRENT fractional coordinates, and the position and the U values every
    observable reads are the ones the history assigned last -/
theorem history_coherent (m : M3 ℝ) (s : AtomSt ℝ) (es : List (Edit ℝ)) (h0 : s.cart = mulVec m s.frac) :
    (history m s es).cart = mulVec m (history m s es).frac ∧
    (history m s es).frac = specFrac s.frac es ∧ (history m s es).uvals = specUvals s.uvals es := by
  induction es generalizing s with
  | nil => exact ⟨h0, rfl, rfl⟩
  | cons e es ih =>
    obtain ⟨h1, h2, h3⟩ := ih (applyEdit m s e) (applyEdit_cart m s e h0)
    refine ⟨h1, h2.trans ?_, h3.trans ?_⟩ <;> cases e <;> rfl

/-- so `Atom.cart_coords` after any history is the conventional-setting image of the atom's current position, for
    parsed atoms and for atoms made by `Shelxfile.add_atom` alike -/
theorem history_cart {sqrt : ℝ → ℝ} (hs : IsSqrt sqrt) (c : Cell ℝ) (h : ValidCell c) (p : V3 ℝ) (u : U6 ℝ)
    (es : List (Edit ℝ)) :
    (history (orthoM sqrt c) (parseAtom (orthoM sqrt c) p u) es).cart
      = mulVec (cholUpper sqrt (metric c)) (specFrac p es) ∧
    (history (orthoM sqrt c) (newAtom sqrt c p u) es).cart
      = mulVec (cholUpper sqrt (metric c)) (specFrac p es) := by
  rw [ortho_is_cholesky hs c h]
  have key : ∀ s : AtomSt ℝ, s.cart = mulVec (orthoM sqrt c) s.frac →
      (history (orthoM sqrt c) s es).cart = mulVec (orthoM sqrt c) (specFrac s.frac es) := fun s h0 => by
    obtain ⟨h1, h2, -⟩ := history_coherent _ s es h0
    rw [h1, h2]
  exact ⟨key _ rfl, key _ (frac_to_cart_agrees hs c h p)⟩

/-- the setter before fixes/C12_4 broke exactly this: one `atom.frac_coords = …` leaves the old Cartesian coordinates -/
theorem frac_setter_old_fails_on :
    ¬ (∀ (p q : V3 ℚ), (historyOld (orthoM sqrtW cellW) (parseAtom (orthoM sqrtW cellW) p uW) [.setFrac q]).cart
        = mulVec (orthoM sqrtW cellW) q) := fun hst =>
  absurd (congrArg V3.x (hst ⟨0, 0, 0⟩ ⟨1, 0, 0⟩)) (by decide +kernel)

theorem parse_body_atoms (m : M3 ℝ) (ls : List (BodyLine ℝ)) (s : ParseSt ℝ) :
    (ls.foldl (parseLine m) s).atoms = s.atoms ++ (specBody ls).map (fun pu => parseAtom m pu.1 pu.2) := by
  induction ls generalizing s with
  | nil => simp [specBody]
  | cons l ls ih =>
    rw [List.foldl_cons, ih]
    cases l <;> simp [parseLine, specBody]

/-- whatever instructions stand between the atom lines of a file (MOVE with any number of parameters, PART, RESI, AFIX,
    restraints, comments), the atoms the parser makes are, in order, those written, each with the position and U values
    of its own line and `cart_coords` = M·`frac_coords`. Inside the model this holds by construction: `parseLine` stores
    `shx.move` and `parseAtom` is not given it. What it records is the modelling decision that `Atom.parse_line` does not
    read `shx.move`; a parser that does, when it fills the Cartesian cache (seeded/C12-w4m1), is not this model,
    and the correspondence run tells them apart. -/
theorem parse_body_coherent (m : M3 ℝ) (ls : List (BodyLine ℝ)) :
    (parseBody m ls).atoms.map (fun a => (a.frac, a.cart, a.uvals))
      = (specBody ls).map (fun pu => (pu.1, mulVec m pu.1, pu.2)) := by
  rw [parseBody, parse_body_atoms]
  simp [parseAtom, Function.comp_def]

/-- so for every valid cell, every atom of the file has `cart_coords` = conventional-setting image of its `frac_coords` -/
theorem parse_body_cart {sqrt : ℝ → ℝ} (hs : IsSqrt sqrt) (c : Cell ℝ) (h : ValidCell c) (ls : List (BodyLine ℝ)) :
    ∀ a ∈ (parseBody (orthoM sqrt c) ls).atoms, a.cart = mulVec (cholUpper sqrt (metric c)) a.frac := by
  intro a ha
  rw [parseBody, parse_body_atoms] at ha
  simp only [List.nil_append, List.mem_map] at ha
  obtain ⟨pu, _, rfl⟩ := ha
  rw [← ortho_is_cholesky hs c h]; rfl

example : ((parseBody (orthoM sqrtW cellW)
      [.atom ⟨1/2, 1/3, 1/4⟩ uW, .move [1/2, 1/4, -1/8, -1], .atom ⟨1/5, 1/7, 1/9⟩ uW, .other, .move [1, 2],
       .atom ⟨-1, 2, 1/2⟩ uW]).atoms.map (fun a => (a.frac.x, a.frac.y, a.frac.z))) = [(1/2, 1/3, 1/4), (1/5, 1/7, 1/9), (-1, 2, 1/2)] ∧
    ((parseBody (orthoM sqrtW cellW) [.move [1/2, 1/4, -1/8, -1], .other, .move [1, 2]]).move.map (fun mv => mv.2)) = some none ∧
    (moveOf [(1/2 : ℚ), 1/4, -1/8, -1]).2 = some (-1) ∧ (moveOf [(1/2 : ℚ), 1/4, -1/8, -1]).1.map V3.z = some (-1/8) := by
  decide +kernel

/-- on one Shelxfile object, after ANY sequence of atom edits and in-place changes of the cell (`shx.cell.set`), what is
    kept outside the CELL object belongs to the CURRENT cell: `Shelxfile.orthogonal_matrix` is its orthogonalisation
    matrix and the atom's Cartesian coordinates are the image of the current position; cell, position and U values are
    the ones assigned last -/
theorem file_history_coherent (sqrt : ℝ → ℝ) (s : FileSt ℝ) (es : List (FEdit ℝ))
    (h0 : s.om = orthoM sqrt s.cell ∧ s.atom.cart = mulVec (orthoM sqrt s.cell) s.atom.frac) :
    let t := fileHistory sqrt s es
    t.om = orthoM sqrt t.cell ∧ t.atom.cart = mulVec (orthoM sqrt t.cell) t.atom.frac ∧
    t.cell = specCell s.cell es ∧ t.atom.frac = specFrac s.atom.frac (atomEdits es) ∧
    t.atom.uvals = specUvals s.atom.uvals (atomEdits es) := by
  induction es generalizing s with
  | nil => exact ⟨h0.1, h0.2, rfl, rfl, rfl⟩
  | cons e es ih =>
    obtain ⟨h1, h2, h3, h4, h5⟩ := ih (applyF sqrt s e) (by
      cases e with
      | atomEdit e => exact ⟨h0.1, applyEdit_cart _ _ e h0.2⟩
      | setCell d => exact ⟨rfl, rfl⟩)
    refine ⟨h1, h2, h3.trans ?_, h4.trans ?_, h5.trans ?_⟩ <;> rcases e with (_ | _ | _ | _) | _ <;> rfl

theorem file_history_read (sqrt : ℝ → ℝ) (c : Cell ℝ) (p : V3 ℝ) (u : U6 ℝ) (es : List (FEdit ℝ)) :
    let t := fileHistory sqrt (readFile sqrt c (parseAtom (orthoM sqrt c) p u)) es
    t.cell = specCell c es ∧ t.om = orthoM sqrt (specCell c es) ∧ t.atom.frac = specFrac p (atomEdits es) ∧
    t.atom.cart = mulVec (orthoM sqrt (specCell c es)) (specFrac p (atomEdits es)) := by
  obtain ⟨h1, h2, h3, h4, -⟩ :=
    file_history_coherent sqrt (readFile sqrt c (parseAtom (orthoM sqrt c) p u)) es ⟨rfl, rfl⟩
  exact ⟨h3, h1.trans (congrArg _ h3), h4, h2.trans (by rw [h3, h4]; rfl)⟩

/-- so, if the cell the history leaves is valid, `Atom.cart_coords` and `Shelxfile.frac_to_cart` of the atom's position
    are the conventional-setting image for the CURRENT cell -/
theorem file_history_cart {sqrt : ℝ → ℝ} (hs : IsSqrt sqrt) (c : Cell ℝ) (p : V3 ℝ) (u : U6 ℝ) (es : List (FEdit ℝ))
    (h : ValidCell (specCell c es)) :
    let t := fileHistory sqrt (readFile sqrt c (parseAtom (orthoM sqrt c) p u)) es
    t.atom.cart = mulVec (cholUpper sqrt (metric (specCell c es))) (specFrac p (atomEdits es)) ∧
    mulVec t.om t.atom.frac = mulVec (cholUpper sqrt (metric (specCell c es))) (specFrac p (atomEdits es)) := by
  obtain ⟨-, h2, h3, h4⟩ := file_history_read sqrt c p u es
  rw [ortho_is_cholesky hs _ h]
  exact ⟨h4, by rw [h2, h3]⟩

/-- `Command.set` before fixes/C12_6 broke it: one `shx.cell.set(…)` leaves the Cartesian coordinates of the old cell -/
theorem cell_set_old_fails_on :
    ¬ (∀ (d : Cell ℚ) (p : V3 ℚ),
        (fileHistoryOld sqrtW (readFile sqrtW cellW (parseAtom (orthoM sqrtW cellW) p uW)) [.setCell d]).atom.cart
          = mulVec (orthoM sqrtW d) p) := fun hst =>
  absurd (congrArg V3.x (hst { cellW with a := 9 } ⟨1, 0, 0⟩)) (by decide +kernel)

/-- a filled memo is the cofactor inverse of the CURRENT cell's matrix (an empty one asks nothing): the invariant of
    `inverse_memo_coherent`, kept because `CELL.set` empties the slot -/
def MemoOk (sqrt : ℝ → ℝ) (s : MemoSt ℝ) : Prop := ∀ i, s.memo = some i → i = inversed (orthoM sqrt s.file.cell)

theorem readFresh_file (sqrt : ℝ → ℝ) (c : Cell ℝ) (a : AtomSt ℝ) : (readFresh sqrt c a).file = readFile sqrt c a := rfl

theorem answerInverse_eq {sqrt : ℝ → ℝ} {s : MemoSt ℝ} (h : MemoOk sqrt s) :
    answerInverse sqrt s = inversed (orthoM sqrt s.file.cell) := by
  unfold answerInverse
  cases hm : s.memo with
  | none => rfl
  | some i => exact h i hm

/-- on one Shelxfile object, after ANY sequence of atom edits, in-place changes of the cell and evaluations of
    `cell.o.inversed` (memoised on the matrix object), `cell.o.inversed` returns the cofactor inverse of the
    orthogonalisation matrix of the CURRENT cell, whatever was asked before the cell was changed, and the questions
    change nothing else -/
theorem inverse_memo_coherent (sqrt : ℝ → ℝ) (s : MemoSt ℝ) (es : List (Step ℝ)) (h0 : MemoOk sqrt s) :
    let t := stepHistory sqrt s es
    MemoOk sqrt t ∧ answerInverse sqrt t = inversed (orthoM sqrt t.file.cell) ∧
    t.file = fileHistory sqrt s.file (stepEdits es) := by
  induction es generalizing s with
  | nil => exact ⟨h0, answerInverse_eq h0, rfl⟩
  | cons e es ih =>
    have hstep : MemoOk sqrt (applyStep sqrt s e) := by
      rcases e with (_ | _) | _
      · exact h0
      · intro i hi; cases hi
      · intro i hi; cases hi; exact answerInverse_eq h0
    obtain ⟨h1, h2, h3⟩ := ih (applyStep sqrt s e) hstep
    refine ⟨h1, h2, h3.trans ?_⟩
    rcases e with (_ | _) | _ <;> rfl

/-- so for a file that was read, whatever is asked and edited afterwards, if the cell the history leaves is valid,
    `cell.o.inversed` is a two-sided inverse of the current `cell.o.m` and maps the atom's current `cart_coords` back to
    its current fractional coordinates -/
theorem inverse_after_history_maps_back {sqrt : ℝ → ℝ} (hs : IsSqrt sqrt) (c : Cell ℝ) (p : V3 ℝ) (u : U6 ℝ)
    (es : List (Step ℝ)) (h : ValidCell (specCell c (stepEdits es))) :
    let t := stepHistory sqrt (readFresh sqrt c (parseAtom (orthoM sqrt c) p u)) es
    let cur := specCell c (stepEdits es)
    mulMM (answerInverse sqrt t) (orthoM sqrt cur) = one3 ∧ mulMM (orthoM sqrt cur) (answerInverse sqrt t) = one3 ∧
    mulVec (answerInverse sqrt t) t.file.atom.cart = specFrac p (atomEdits (stepEdits es)) ∧
    (∀ q, mulVec (answerInverse sqrt t) q = cartToFracMisc sqrt cur q) := by
  obtain ⟨-, a2, a3⟩ := inverse_memo_coherent sqrt (readFresh sqrt c (parseAtom (orthoM sqrt c) p u)) es
    (fun i hi => by cases hi)
  obtain ⟨f1, -, -, f4⟩ := file_history_read sqrt c p u (stepEdits es)
  obtain ⟨i1, i2, i3, -⟩ := ortho_inverse hs _ h
  dsimp only at a2 a3 ⊢
  rw [readFresh_file] at a3
  rw [a2, a3, f1, f4]
  exact ⟨i2, i1, i3 _, fun q => (cart_to_frac_agrees hs _ h q).symm⟩

/-- the theorem hangs on `CELL.set` building a fresh matrix object: if the object were kept and recalculated in place
    with its memo, one question before one `cell.set` would leave the inverse of the OLD cell -/
theorem memo_kept_fails_on :
    ¬ (∀ (d : Cell ℚ) (p : V3 ℚ),
        answerInverse sqrtW (stepHistoryKeep sqrtW (readFresh sqrtW cellW (parseAtom (orthoM sqrtW cellW) p uW))
          [.askInverse, .edit (.setCell d)]) = inversed (orthoM sqrtW d)) := fun hst =>
  absurd (congrArg (fun m : M3 ℚ => m.r0.x) (hst { cellW with a := 9 } ⟨0, 0, 0⟩)) (by decide +kernel)

example : (answerInverse sqrtW (stepHistory sqrtW (readFresh sqrtW cellW (parseAtom (orthoM sqrtW cellW) ⟨0, 0, 0⟩ uW))
    [.askInverse, .edit (.setCell { cellW with a := 9 }), .askInverse])).r0.x = 1 / 9 ∧
    (answerInverse sqrtW (stepHistoryKeep sqrtW (readFresh sqrtW cellW (parseAtom (orthoM sqrtW cellW) ⟨0, 0, 0⟩ uW))
    [.askInverse, .edit (.setCell { cellW with a := 9 }), .askInverse])).r0.x = 1 / 5 := by
  decide +kernel

/-! ## the tie to the traced source (`ShelxModel/Extracted/C12Src.lean`, regenerated on every run)

  `extract/trace_c12.py` runs the repository's own code on symbolic numbers (`extract/symtrace.py`): `Matrix`, `Array`,
  `OrthogonalMatrix`, the free functions of misc.py/dsrmath.py and, through `Shelxfile.read_string` on a file whose
  numbers are placeholders, the observables of the parsed `CELL` and `Atom` objects. What CPython computed is written out
  as straight-line definitions `Src.…`. Each `src_…` theorem says: for ALL real inputs that program IS the model function
  the property theorems are about. A change of the arithmetic in the repository changes `Src.…` and the theorem fails on
  the next run (ring normalisation absorbs re-association, reordering and renamed temporaries). Outside these theorems:
  the branch events listed in the docstrings of `Src.…` (magnitude tests of the parser on the sample values) and rounding.
-/

def flatV {K : Type} (v : V3 K) : List K := [v.x, v.y, v.z]
def flatM {K : Type} (m : M3 K) : List K := [m.r0.x, m.r0.y, m.r0.z, m.r1.x, m.r1.y, m.r1.z, m.r2.x, m.r2.y, m.r2.z]
def ofRows {K : Type} (m00 m01 m02 m10 m11 m12 m20 m21 m22 : K) : M3 K := ⟨⟨m00, m01, m02⟩, ⟨m10, m11, m12⟩, ⟨m20, m21, m22⟩⟩

/-- `src_tie f`: one `simp only` that unfolds the traced definition `f` and every formula of the model (the operations
    of the matrix classes, the quantities derived from the cell, the U chain) and rewrites with `zero_mul`, `mul_zero`,
    `zero_add`, `add_zero`: the loops of `Matrix.__mul__` and `Matrix.dot` leave literal `0 * t`, `t * 0`, `0 + t` in a
    trace, and `ring_nf` would multiply `t` out before it meets the zero. Where the code computes as the model is written
    both sides are then the same term and nothing remains; any other order, association or spelling, also inside an
    argument of `sqrt`, is left to `ring_nf`. -/
syntax "src_tie " ident : tactic
macro_rules
  | `(tactic| src_tie $f:ident) => `(tactic|
      (simp only [$f:ident, flatV, flatM, dot, vsub, col0, col1, col2, transpose, mulRR, mulMM, mulVec, trace, det, inversed,
        volRadicand, volume, orthoM, metricCode, cosAstar, fracToCartMisc, cartToFracMisc, atomicDistSq, atomicDistance,
        recip, diag, nMat, ucif, ustar, ucart, ueqAniso, zero_mul, mul_zero, zero_add, add_zero] <;> ring_nf))

theorem src_volUnitcell (sqrt : ℝ → ℝ) (c : Cell ℝ) :
    Src.volUnitcell sqrt c.a c.b c.c c.ca c.cb c.cg = volume sqrt c := by
  src_tie Src.volUnitcell

theorem src_cellVolume (sqrt : ℝ → ℝ) (c : Cell ℝ) :
    Src.cellVolume sqrt c.a c.b c.c c.ca c.cb c.cg = volume sqrt c := by
  src_tie Src.cellVolume

theorem src_orthoM (sqrt : ℝ → ℝ) (c : Cell ℝ) :
    Src.orthoM sqrt c.a c.b c.c c.ca c.cb c.cg c.sg = flatM (orthoM sqrt c) := by
  src_tie Src.orthoM

theorem src_orthoMulVec (sqrt : ℝ → ℝ) (c : Cell ℝ) (p : V3 ℝ) :
    Src.orthoMulVec sqrt c.a c.b c.c c.ca c.cb c.cg c.sg p.x p.y p.z = flatV (mulVec (orthoM sqrt c) p) := by
  src_tie Src.orthoMulVec

theorem src_atomCart (sqrt : ℝ → ℝ) (c : Cell ℝ) (p : V3 ℝ) :
    Src.atomCart sqrt c.a c.b c.c c.ca c.cb c.cg c.sg p.x p.y p.z = flatV (mulVec (orthoM sqrt c) p) := by
  src_tie Src.atomCart

theorem src_shxFracToCart (sqrt : ℝ → ℝ) (c : Cell ℝ) (p : V3 ℝ) :
    Src.shxFracToCart sqrt c.a c.b c.c c.ca c.cb c.cg c.sg p.x p.y p.z = flatV (mulVec (orthoM sqrt c) p) := by
  src_tie Src.shxFracToCart

theorem src_metricMatrix (sqrt : ℝ → ℝ) (c : Cell ℝ) :
    Src.metricMatrix sqrt c.a c.b c.c c.ca c.cb c.cg c.sg = flatM (metricCode sqrt c) := by
  src_tie Src.metricMatrix

theorem src_matDet (m : M3 ℝ) :
    Src.matDet m.r0.x m.r0.y m.r0.z m.r1.x m.r1.y m.r1.z m.r2.x m.r2.y m.r2.z = det m := by
  src_tie Src.matDet

theorem src_matInversed (m : M3 ℝ) :
    Src.matInversed m.r0.x m.r0.y m.r0.z m.r1.x m.r1.y m.r1.z m.r2.x m.r2.y m.r2.z = flatM (inversed m) := by
  src_tie Src.matInversed

theorem src_matTransposed (m : M3 ℝ) :
    Src.matTransposed m.r0.x m.r0.y m.r0.z m.r1.x m.r1.y m.r1.z m.r2.x m.r2.y m.r2.z = flatM (transpose m) := by
  src_tie Src.matTransposed

theorem src_matMulStar (m n : M3 ℝ) :
    Src.matMulStar m.r0.x m.r0.y m.r0.z m.r1.x m.r1.y m.r1.z m.r2.x m.r2.y m.r2.z
        n.r0.x n.r0.y n.r0.z n.r1.x n.r1.y n.r1.z n.r2.x n.r2.y n.r2.z = flatM (mulRR m n) := by
  src_tie Src.matMulStar

theorem src_matDot (m n : M3 ℝ) :
    Src.matDot m.r0.x m.r0.y m.r0.z m.r1.x m.r1.y m.r1.z m.r2.x m.r2.y m.r2.z
        n.r0.x n.r0.y n.r0.z n.r1.x n.r1.y n.r1.z n.r2.x n.r2.y n.r2.z = flatM (mulMM m n) := by
  src_tie Src.matDot

theorem src_matMulVec (m : M3 ℝ) (v : V3 ℝ) :
    Src.matMulVec m.r0.x m.r0.y m.r0.z m.r1.x m.r1.y m.r1.z m.r2.x m.r2.y m.r2.z v.x v.y v.z = flatV (mulVec m v) := by
  src_tie Src.matMulVec

theorem src_matTrace (m : M3 ℝ) :
    Src.matTrace m.r0.x m.r0.y m.r0.z m.r1.x m.r1.y m.r1.z m.r2.x m.r2.y m.r2.z = trace m := by
  src_tie Src.matTrace

theorem src_fracToCartMisc (sqrt : ℝ → ℝ) (c : Cell ℝ) (p : V3 ℝ) :
    Src.fracToCartMisc sqrt c.a c.b c.c c.ca c.cb c.cg c.sb c.sg p.x p.y p.z = flatV (fracToCartMisc sqrt c p) := by
  src_tie Src.fracToCartMisc

theorem src_cartToFracMisc (sqrt : ℝ → ℝ) (c : Cell ℝ) (q : V3 ℝ) :
    Src.cartToFracMisc sqrt c.a c.b c.c c.ca c.cb c.cg c.sb c.sg q.x q.y q.z = flatV (cartToFracMisc sqrt c q) := by
  src_tie Src.cartToFracMisc

theorem src_atomicDistance (sqrt : ℝ → ℝ) (c : Cell ℝ) (p1 p2 : V3 ℝ) :
    Src.atomicDistance sqrt c.a c.b c.c c.ca c.cb c.cg p1.x p1.y p1.z p2.x p2.y p2.z = atomicDistance sqrt c p1 p2 := by
  src_tie Src.atomicDistance

theorem src_cellRecip (sqrt : ℝ → ℝ) (c : Cell ℝ) :
    Src.cellRecip sqrt c.a c.b c.c c.ca c.cb c.cg c.sa c.sb c.sg = flatV (recip sqrt c) := by
  src_tie Src.cellRecip

theorem src_cellN (sqrt : ℝ → ℝ) (c : Cell ℝ) :
    Src.cellN sqrt c.a c.b c.c c.ca c.cb c.cg c.sa c.sb c.sg = flatM (nMat sqrt c) := by
  src_tie Src.cellN

theorem src_atomUcif (u : U6 ℝ) :
    Src.atomUcif u.u11 u.u22 u.u33 u.u23 u.u13 u.u12 = flatM (ucif u) := by
  src_tie Src.atomUcif

theorem src_atomUstar (sqrt : ℝ → ℝ) (c : Cell ℝ) (u : U6 ℝ) :
    Src.atomUstar sqrt c.a c.b c.c c.ca c.cb c.cg c.sa c.sb c.sg u.u11 u.u22 u.u33 u.u23 u.u13 u.u12
      = flatM (ustar (nMat sqrt c) (ucif u)) := by
  src_tie Src.atomUstar

theorem src_atomUcart (sqrt : ℝ → ℝ) (c : Cell ℝ) (u : U6 ℝ) :
    Src.atomUcart sqrt c.a c.b c.c c.ca c.cb c.cg c.sa c.sb c.sg u.u11 u.u22 u.u33 u.u23 u.u13 u.u12
      = flatM (ucart (orthoM sqrt c) (nMat sqrt c) (ucif u)) := by
  src_tie Src.atomUcart

theorem src_atomUeq (sqrt : ℝ → ℝ) (c : Cell ℝ) (u : U6 ℝ) :
    Src.atomUeq sqrt c.a c.b c.c c.ca c.cb c.cg c.sa c.sb c.sg u.u11 u.u22 u.u33 u.u23 u.u13 u.u12
      = ueqAniso sqrt c u := by
  src_tie Src.atomUeq

/-! ### traced histories and traced thresholds

  `cellSetInversed`, `cellSetShxInversed`, `cellSetUeq`: the file is read with one cell, the observables (and
  `cell.o.inversed`) are ASKED, the cell is changed with `shx.cell.set`, and the observable is asked again. The traced
  result is a function of the SECOND cell's numbers only: one that still mentioned the first cell could not be written
  out with this signature.
  `atomUeqFlat5/7/10`: the same atom with U33, U23, U13, U12 tiny but not zero (sums of absolute values 1e-5, 7e-7,
  1e-10: on either side of each magnitude the code compares U values against; the branch events in the docstrings of
  `Src.…` name the constants 1e-06 of `set_uvals`/`parse_line`). On each of these paths `Atom.ueq` is the same
  straight-line program. -/

theorem src_cellSetInversed (sqrt : ℝ → ℝ) (c : Cell ℝ) :
    Src.cellSetInversed sqrt c.a c.b c.c c.ca c.cb c.cg c.sg = flatM (inversed (orthoM sqrt c)) := by
  src_tie Src.cellSetInversed

theorem src_cellSetShxInversed (sqrt : ℝ → ℝ) (c : Cell ℝ) :
    Src.cellSetShxInversed sqrt c.a c.b c.c c.ca c.cb c.cg c.sg = flatM (inversed (orthoM sqrt c)) := by
  src_tie Src.cellSetShxInversed

theorem src_cellSetUeq (sqrt : ℝ → ℝ) (c : Cell ℝ) (u : U6 ℝ) :
    Src.cellSetUeq sqrt c.a c.b c.c c.ca c.cb c.cg c.sa c.sb c.sg u.u11 u.u22 u.u33 u.u23 u.u13 u.u12
      = ueqAniso sqrt c u := by
  src_tie Src.cellSetUeq

theorem src_atomUeqFlat5 (sqrt : ℝ → ℝ) (c : Cell ℝ) (u : U6 ℝ) :
    Src.atomUeqFlat5 sqrt c.a c.b c.c c.ca c.cb c.cg c.sa c.sb c.sg u.u11 u.u22 u.u33 u.u23 u.u13 u.u12
      = ueqAniso sqrt c u := by
  src_tie Src.atomUeqFlat5

theorem src_atomUeqFlat7 (sqrt : ℝ → ℝ) (c : Cell ℝ) (u : U6 ℝ) :
    Src.atomUeqFlat7 sqrt c.a c.b c.c c.ca c.cb c.cg c.sa c.sb c.sg u.u11 u.u22 u.u33 u.u23 u.u13 u.u12
      = ueqAniso sqrt c u := by
  src_tie Src.atomUeqFlat7

theorem src_atomUeqFlat10 (sqrt : ℝ → ℝ) (c : Cell ℝ) (u : U6 ℝ) :
    Src.atomUeqFlat10 sqrt c.a c.b c.c c.ca c.cb c.cg c.sa c.sb c.sg u.u11 u.u22 u.u33 u.u23 u.u13 u.u12
      = ueqAniso sqrt c u := by
  src_tie Src.atomUeqFlat10

end Shelx.C12
