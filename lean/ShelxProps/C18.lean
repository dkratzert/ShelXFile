/-
  C18 — the CIF export (`Extracted.C18` is regenerated from the source on every run).

  Operators: rows with coefficients in {-1,0,1} (not all zero) and a translation k/12, -24 ≤ k ≤ 24 (1/2, 1/3, 2/3, 1/4,
  3/4, 1/6, 5/6, their negatives and everything a centring adds), exact or as the nearest double; the specification is
  the independent CIF reader `denoteCif`. A row's text is the translation's followed by the coefficients', and the
  reader adds what the two denote (`denoteComp_append`, Lemmas/C18Reader.lean), so the 48 translation texts and the 26
  coefficient texts are evaluated each by itself.
  Data items: every record `Src` (all combinations of absent ZERR, TEMP, SIZE, residuals, title). The value behind a
  data name is the dictionary's under the placeholder the regenerated template puts there (`itemOf_eq`;
  Lemmas/C18Template.lean has this for any template and dictionary).
-/
import ShelxModel.C18
import ShelxProps.Lemmas.C18Reader
import ShelxProps.Lemmas.C18Template
import Mathlib.Tactic.Linarith

namespace Shelx.C18

/-- `c` is a row of the domain: coefficients in {-1,0,1}, translation `k`/12 with `k ∈ ks`. Not all coefficients are
    zero, as in every row of an invertible matrix: the all-zero row without translation is printed as the empty
    string, which denotes nothing -/
def RowK (k : Int) (c : Comp) : Prop :=
  k ∈ ks ∧ c.cx ∈ sg ∧ c.cy ∈ sg ∧ c.cz ∈ sg ∧ (c.cx ≠ 0 ∨ c.cy ≠ 0 ∨ c.cz ≠ 0) ∧ c.t = (k : Rat) / 12

theorem compGood_iff {ts : List Char} {c : Comp} :
    compGood ts c = true ↔ ∃ s, compToCif ts c = some s ∧ ',' ∉ s ∧ denoteComp s = some c := by
  unfold compGood
  cases compToCif ts c <;> simp

/-- the print mode read off the source is `Fraction(t).limit_denominator(fracLimit)`; with the original text
    replacement (mode 0, `legacy_third_is_mangled`) neither this nor anything that rests on it compiles -/
theorem compToCif_eq (ts : List Char) (c : Comp) : compToCif ts c = compFrac Extracted.C18.fracLimit c := by
  unfold compToCif compToCifWith
  exact if_pos (by decide)

/-- the first branch of CPython's `limit_denominator` -/
theorem limitDen_exact (N : Nat) (x : Rat) (h : x.den ≤ N) : limitDen N x = some x := by
  simp [limitDen, h]

/-- k/12 needs no rounding under the bound read off the source -/
theorem ks_den_le : ∀ k ∈ ks, ((k : Rat) / 12).den ≤ Extracted.C18.fracLimit := by
  decide +kernel

theorem trans_text_denotes : ∀ k ∈ ks, k ≠ 0 → ',' ∉ lower (fracStr ((k : Rat) / 12)) ∧
    denoteComp (lower (fracStr ((k : Rat) / 12))) = some ⟨0, 0, 0, (k : Rat) / 12⟩ := by
  decide +kernel

/-- the middle clause is what `denoteComp_append` asks of a continuation (`hs` there) -/
theorem terms_text_denotes : ∀ cx ∈ sg, ∀ cy ∈ sg, ∀ cz ∈ sg, (cx ≠ 0 ∨ cy ≠ 0 ∨ cz ≠ 0) →
    ',' ∉ lower (termsOf ⟨cx, cy, cz, 0⟩) ∧
    (splitTerms (lower ((lower (termsOf ⟨cx, cy, cz, 0⟩)).filter (· ≠ ' ')))).1 = [] ∧
    denoteComp (lower (termsOf ⟨cx, cy, cz, 0⟩)) = some ⟨cx, cy, cz, 0⟩ := by
  decide +kernel

/-- `t` is a translation that `limit_denominator` snaps to k/12: k/12 itself (`compGood_of_rowK`) or the double next
    to it (`double_rows_denote`) -/
theorem row_denotes {N : Nat} {k cx cy cz : Int} {t : Rat} (hk : k ∈ ks) (hx : cx ∈ sg) (hy : cy ∈ sg) (hz : cz ∈ sg)
    (hne : cx ≠ 0 ∨ cy ≠ 0 ∨ cz ≠ 0) (h : limitDen N t = some ((k : Rat) / 12)) (h0 : t = 0 ↔ k = 0) :
    ∃ s, compFrac N ⟨cx, cy, cz, t⟩ = some s ∧ ',' ∉ s ∧ denoteComp s = some (compOfK k cx cy cz) := by
  obtain ⟨hcx, hsx, hdx⟩ := terms_text_denotes cx hx cy hy cz hz hne
  rw [compFrac, show termsOf ⟨cx, cy, cz, t⟩ = termsOf ⟨cx, cy, cz, 0⟩ from rfl]
  by_cases hk0 : k = 0
  · subst hk0
    rw [if_pos (h0.2 rfl)]
    exact ⟨_, rfl, hcx, by simpa [compOfK] using hdx⟩
  · obtain ⟨hct, hdt⟩ := trans_text_denotes k hk hk0
    rw [if_neg (mt h0.1 hk0), h, Option.map_some, lower_append]
    exact ⟨_, rfl, by simp [hct, hcx], (denoteComp_append hdt hdx hsx).trans (by simp [Comp.add, compOfK])⟩

theorem compGood_of_rowK (ts : List Char) {k : Int} {c : Comp} (h : RowK k c) : compGood ts c = true := by
  obtain ⟨cx, cy, cz, t⟩ := c
  obtain ⟨hk, hx, hy, hz, hne, rfl⟩ := h
  rw [compGood_iff, compToCif_eq]
  exact row_denotes hk hx hy hz hne (limitDen_exact _ _ (ks_den_le k hk)) (by simp)

/-- an operator whose three rows are each written comma-free and read back is itself written and read back -/
theorem toCif_denotes (ts : List Char × List Char × List Char) (op : Op) (h1 : compGood ts.1 op.r1 = true)
    (h2 : compGood ts.2.1 op.r2 = true) (h3 : compGood ts.2.2 op.r3 = true) :
    (toCif ts op).bind denoteCif = some op := by
  obtain ⟨a, ha, hca, hda⟩ := compGood_iff.1 h1
  obtain ⟨b, hb, hcb, hdb⟩ := compGood_iff.1 h2
  obtain ⟨c, hc, hcc, hdc⟩ := compGood_iff.1 h3
  simp [toCif, ha, hb, hc, denoteCif_join3 hca hcb hcc hda hdb hdc]

/-- the string `SymmetryElement.to_cif` writes for an operator with rows in `RowK` denotes exactly that operator. The `ts`
    argument is ignored by the repaired printer (`compToCif_eq`): `reprOf`/`reprTable` serve the `legacy_*` witnesses only -/
theorem cif_ops_denote (op : Op) (k1 k2 k3 : Int) (h1 : RowK k1 op.r1) (h2 : RowK k2 op.r2) (h3 : RowK k3 op.r3) :
    (toCif (reprOf k1, reprOf k2, reprOf k3) op).bind denoteCif = some op :=
  toCif_denotes _ op (compGood_of_rowK _ h1) (compGood_of_rowK _ h2) (compGood_of_rowK _ h3)

/-- non-vacuity: the 6₁ screw axis `x-y, x, z+1/6` and an R-centred image of a glide `…+7/6` are in the domain -/
example : RowK 2 ⟨0, 0, 1, 1 / 6⟩ :=
  ⟨by decide, by decide, by decide, by decide, by decide, by norm_num⟩
example : RowK 14 ⟨1, -1, 0, 7 / 6⟩ :=
  ⟨by decide, by decide, by decide, by decide, by decide, by norm_num⟩
example : (toCif ([], [], []) ⟨⟨1, -1, 0, 0⟩, ⟨1, 0, 0, 0⟩, ⟨0, 0, 1, 1 / 6⟩⟩).bind denoteCif
    = some ⟨⟨1, -1, 0, 0⟩, ⟨1, 0, 0, 0⟩, ⟨0, 0, 1, 1 / 6⟩⟩ := by decide +kernel

/-- the reader is not a rubber stamp: a truncated decimal is not the fraction -/
example : denoteComp "0.6666666666666666+z".toList ≠ some ⟨0, 0, 1, 2 / 3⟩ := by decide +kernel
example : denoteComp "z+2/3".toList = some ⟨0, 0, 1, 2 / 3⟩ := by decide +kernel
example : denoteComp " -X + y - 0.25".toList = some ⟨-1, 1, 0, -1 / 4⟩ := by decide +kernel
example : denoteComp "x+-1/2".toList = none := by decide +kernel

/-! the code before `fixes/C18_1` (write CIF symmetry operators with exact fractions) -/

/-- the replacement list of the original `_replace_float_values` -/
def legacyRepl : List (List Char × List Char) :=
  [("1.25".toList, "5/4".toList), ("0.75".toList, "3/4".toList), ("0.5".toList, "1/2".toList),
   ("0.33".toList, "1/3".toList), ("0.25".toList, "1/4".toList), ("0.125".toList, "1/6".toList)]

/-- '0.33' is replaced inside the repr of the double 1/3 -/
theorem legacy_third_is_mangled :
    compLegacy legacyRepl (reprOf 4) ⟨0, 0, 1, 1 / 3⟩ = some "1/333333333333333+z".toList := by decide +kernel

theorem legacy_ops_fail_on :
    (compLegacy legacyRepl (reprOf 4) ⟨0, 0, 1, 1 / 3⟩).bind denoteComp ≠ some ⟨0, 0, 1, 1 / 3⟩ ∧
    (compLegacy legacyRepl (reprOf 8) ⟨0, 0, 1, 2 / 3⟩).bind denoteComp ≠ some ⟨0, 0, 1, 2 / 3⟩ ∧
    (compLegacy legacyRepl (reprOf 2) ⟨0, 0, 1, 1 / 6⟩).bind denoteComp ≠ some ⟨0, 0, 1, 1 / 6⟩ ∧
    (compLegacy legacyRepl (reprOf 10) ⟨0, 0, 1, 5 / 6⟩).bind denoteComp ≠ some ⟨0, 0, 1, 5 / 6⟩ ∧
    (compLegacy legacyRepl "0.125".toList ⟨0, 0, 1, 1 / 8⟩).bind denoteComp = some ⟨0, 0, 1, 1 / 6⟩ := by
  decide +kernel

/-- the text replacement prints the row `-1/2-y` right: it is from the repository's one CIF test (`tests/test_to_cif.py`,
    P2₁/c), which has no translation but ±1/2 -/
theorem legacy_ok_on_halves :
    (compLegacy legacyRepl (reprOf (-6)) ⟨0, -1, 0, -1 / 2⟩).bind denoteComp = some ⟨0, -1, 0, -1 / 2⟩ := by
  decide +kernel

/-- the double nearest to k/12 (`doubleTable`, checked against CPython by the harness on every run) is snapped to k/12
    under the bound read off the source -/
theorem double_table_snaps :
    ∀ e ∈ doubleTable, limitDen Extracted.C18.fracLimit (mkRat e.2.1 e.2.2) = some ((e.1 : Rat) / 12) := by
  decide +kernel

theorem doubleTable_keys : ∀ e ∈ doubleTable, e.1 ∈ ks ∧ (mkRat e.2.1 e.2.2 = 0 ↔ e.1 = 0) := by
  decide +kernel

/-- the row printed from the double denotes the row with the exact translation (`reprOf e.1` is ignored, `compToCif_eq`) -/
theorem double_rows_denote : ∀ e ∈ doubleTable, ∀ cx ∈ sg, ∀ cy ∈ sg, ∀ cz ∈ sg, (cx ≠ 0 ∨ cy ≠ 0 ∨ cz ≠ 0) →
    (compToCif (reprOf e.1) ⟨cx, cy, cz, mkRat e.2.1 e.2.2⟩).bind denoteComp = some (compOfK e.1 cx cy cz) := by
  intro e he cx hx cy hy cz hz hne
  obtain ⟨hk, h0⟩ := doubleTable_keys e he
  obtain ⟨s, hs, -, hd⟩ := row_denotes hk hx hy hz hne (double_table_snaps e he) h0
  rw [compToCif_eq, hs]
  exact hd

/-- a double next to a fraction is snapped to it (the double nearest to 1/3; `1/2 + 2/3 + 1/3` in floating point, one ulp below 3/2) -/
example : limitDen 1000 (mkRat 6004799503160661 18014398509481984) = some (1 / 3) := by decide +kernel
example : limitDen 1000 (mkRat 6755399441055743 4503599627370496) = some (3 / 2) := by decide +kernel

/-- in particular no branch of `cifDict` raises -/
theorem cifDict_keys (s : Src) : (match cifDict s with | .ok d => d.map (·.1) | .error _ => []) = modelKeys := rfl

/-- the keys of the source's `_cif_dict` (`dictKeys`, regenerated) are the model's keys plus the text parts -/
theorem dict_keys_are_model_keys :
    (∀ k ∈ Extracted.C18.dictKeys, k ∈ modelKeys ∨ k ∈ textKeys) ∧
    (∀ k ∈ modelKeys ++ textKeys, k ∈ Extracted.C18.dictKeys) := by
  decide +kernel

/-- every `${placeholder}` of the template (regenerated) has a key: `Template.substitute` cannot raise KeyError -/
theorem template_tags_covered : ∀ t ∈ Extracted.C18.templateTags, t ∈ modelKeys ∨ t ∈ textKeys := by
  decide +kernel

/-- … and so has every `_name ${placeholder}` line of the template (`templatePairs`, regenerated) -/
theorem template_pairs_covered : ∀ p ∈ Extracted.C18.templatePairs, p.2.1 ∈ modelKeys ∨ p.2.1 ∈ textKeys := by
  decide +kernel

theorem cifItems_lookup (s : Src) : ∃ l, cifItems s = .ok l ∧ ∀ name, lookup name l =
    (placeholder Extracted.C18.templatePairs name).bind fun key => (cifDict s).toOption.bind (lookup key) := by
  obtain ⟨d, hd⟩ : ∃ d, cifDict s = pure d := ⟨_, rfl⟩
  have hk : d.map (·.1) = modelKeys := by
    have := cifDict_keys s
    rwa [hd] at this
  rw [cifItems, hd, pure_bind, substitute_ok (hk ▸ template_tags_covered), pure_bind]
  exact cifItemsOf_lookup (hk ▸ template_pairs_covered)

/-- a CIF is produced for every record; this stops compiling when a key or a placeholder is renamed on one side only -/
theorem cif_total (s : Src) : isOk (cifItems s) = true := by
  obtain ⟨l, hl, -⟩ := cifItems_lookup s
  rw [hl]
  rfl

theorem itemOf_eq (s : Src) (name : String) : itemOf s name =
    (placeholder Extracted.C18.templatePairs name).bind fun key => (cifDict s).toOption.bind (lookup key) := by
  obtain ⟨l, hl, hlook⟩ := cifItems_lookup s
  rw [itemOf, hl]
  exact hlook name

/-- cell, Z, wavelength and sum formula in the CIF are the model's.
    `hw` excludes a wavelength of exactly 0 (`CELL 0 …`, for which the code's `wavelength or '?'` writes `?`). -/
theorem cif_values_eq_model (s : Src) (hw : s.wavelength ≠ 0) :
    ∀ p ∈ specItems s, itemOf s p.1 = some p.2 := by
  have hwl : some (orUnknown s.wavelength) = some (.num s.wavelength) := by simp [orUnknown, hw]
  simp only [itemOf_eq, specItems, List.forall_mem_cons]
  exact ⟨rfl, rfl, rfl, rfl, rfl, rfl, rfl, hwl, rfl, List.forall_mem_nil _⟩

/-- Z in the CIF is the Z of ZERR (below 1 shelx.py makes it 1) -/
theorem z_is_zerr (s : Src) (z : Rat) (hz : s.zerr = some z) (h1 : 1 ≤ z) :
    itemOf s "_cell_formula_units_Z" = some (.num z) := by
  have hi : itemOf s "_cell_formula_units_Z" = some (.num (zOf s.zerr)) := (itemOf_eq s _).trans rfl
  simp [hi, hz, zOf, not_lt.2 h1]

theorem roundHalfEven_cases (y : Rat) :
    roundHalfEven y = y.floor ∧ y - y.floor ≤ 1 / 2 ∨ roundHalfEven y = y.floor + 1 ∧ 1 / 2 ≤ y - y.floor := by
  unfold roundHalfEven
  simp only
  split_ifs with h1 h2 h3
  · exact .inl ⟨rfl, h1.le⟩
  · exact .inr ⟨rfl, h2.le⟩
  · exact .inl ⟨rfl, not_lt.1 h2⟩
  · exact .inr ⟨rfl, not_lt.1 h1⟩

theorem roundHalfEven_close (y : Rat) : (roundHalfEven y : Rat) - 1 / 2 ≤ y ∧ y ≤ (roundHalfEven y : Rat) + 1 / 2 := by
  have h1 := Rat.floor_le y
  have h2 := Rat.lt_floor_add_one y
  push_cast at h2
  obtain ⟨h, hr⟩ | ⟨h, hr⟩ := roundHalfEven_cases y <;> rw [h]
  · constructor <;> linarith
  · push_cast
    constructor <;> linarith

theorem round3_close (x : Rat) : round3 x - 1 / 2000 ≤ x ∧ x ≤ round3 x + 1 / 2000 := by
  obtain ⟨h1, h2⟩ := roundHalfEven_close (x * 1000)
  unfold round3
  constructor <;> linarith

/-- the temperature is above 0.0005 K (everything physical; at -273.15 °C the code's `or '?'` writes `?`) -/
def AboveZeroK (t : Rat) : Prop := 1 / 2000 < t + 273.15

theorem temperature_item (s : Src) :
    itemOf s "_cell_measurement_temperature" = some (orUnknown (round3 (tempKOf s.temp))) :=
  (itemOf_eq s _).trans rfl

/-- with `TEMP t` the CIF gives t + 273.15 K to the three decimals of `round(…, 3)` in `_misc_dict` (merged into `_cif_dict`) -/
theorem temp_spec (s : Src) (t : Rat) (ht : s.temp = some t) (hz : AboveZeroK t) :
    ∃ v, itemOf s "_cell_measurement_temperature" = some (.num v) ∧ v - 1 / 2000 ≤ t + 273.15 ∧ t + 273.15 ≤ v + 1 / 2000 := by
  refine ⟨round3 (t + 273.15), ?_, round3_close _⟩
  have hpos : round3 (t + 273.15) ≠ 0 := by
    have := (round3_close (t + 273.15)).2
    unfold AboveZeroK at hz
    intro h0
    rw [h0] at this
    linarith
  simp [temperature_item, ht, tempKOf, orUnknown, hpos]

theorem temp_absent (s : Src) (ht : s.temp = none) : itemOf s "_cell_measurement_temperature" = some .unknown := by
  rw [temperature_item, ht]
  decide +kernel

theorem size_absent (s : Src) (h : s.size = none) :
    itemOf s "_exptl_crystal_size_max" = some .unknown ∧ itemOf s "_exptl_crystal_size_mid" = some .unknown ∧
    itemOf s "_exptl_crystal_size_min" = some .unknown := by
  -- with the record taken apart `h` puts `none` into it, and the `match` on it in `cifDict` computes
  cases s
  cases h
  exact ⟨(itemOf_eq _ _).trans rfl, (itemOf_eq _ _).trans rfl, (itemOf_eq _ _).trans rfl⟩

def bare : Src :=
  { titl := [], sumFormula := "C2 H6 O1", formulaWeight := 46.07, wavelength := 0.71073, a := 10, b := 11, c := 12,
    alpha := 90, beta := 95, gamma := 90, volume := 1315, zerr := none, temp := none, size := none,
    r1 := none, wr2 := none, goof := none, spaceGroup := none }

example : isOk (cifItems bare) = true := cif_total bare
example : bare.wavelength ≠ 0 := by decide +kernel
example : itemOf bare "_cell_formula_units_Z" = some (.num 1) := (itemOf_eq bare _).trans (by decide +kernel)
example : AboveZeroK (-173.18) := by unfold AboveZeroK; norm_num
example : itemOf { bare with temp := some (-173.18) } "_cell_measurement_temperature" = some (.num 99.97) :=
  (itemOf_eq _ _).trans (by decide +kernel)

/-! the code before `fixes/C18_2`–`C18_4`: attribute access on `None`, `[0]` of an empty list -/

theorem legacy_raises_without_size : cifDictLegacy { bare with titl := ["x"], zerr := some 4 } = .error .AttributeError := rfl
theorem legacy_raises_without_zerr : cifDictLegacy { bare with titl := ["x"], size := some ⟨1, 2, 3⟩ } = .error .AttributeError := rfl
theorem legacy_raises_on_empty_title : cifDictLegacy { bare with zerr := some 4, size := some ⟨1, 2, 3⟩ } = .error .IndexError := rfl

theorem foldl_append_filter_map {α β : Type} (p : α → Bool) (f : α → β) (l : List α) (init : List β) :
    l.foldl (fun acc a => if p a then acc ++ [f a] else acc) init = init ++ (l.filter p).map f := by
  induction l generalizing init with
  | nil => simp
  | cons a t ih => cases h : p a <;> simp [h, ih]

theorem isIso_eq (a : AtomS) : isIso a = !specAniso a := by
  simp [isIso, specAniso, List.any, Bool.or_assoc]

theorem rowOf_eq (a : AtomS) : rowOf a = specRow a := by
  simp [rowOf, specRow, isIso_eq]

/-- the atom loop is, in order, one row per atom that is not a Q-peak; anisotropic iff one of U22…U12 is given -/
theorem cif_atoms_nonq (atoms : List AtomS) : atomLoop atoms = specAtomLoop atoms := by
  rw [atomLoop, foldl_append_filter_map, List.nil_append, funext rowOf_eq, specAtomLoop]

/-- the ADP loop is, in order, the six Uij of the anisotropic atoms that are not Q-peaks -/
theorem cif_adp_aniso (atoms : List AtomS) : adpLoop atoms = specAdpLoop atoms := by
  rw [adpLoop, foldl_append_filter_map, List.nil_append, specAdpLoop]
  simp only [isIso_eq, Bool.not_not]

theorem adp_labels_are_the_uani_rows (atoms : List AtomS) :
    (adpLoop atoms).map (·.label) = ((atomLoop atoms).filter (·.aniso)).map (·.label) := by
  rw [cif_adp_aniso, cif_atoms_nonq, specAdpLoop, specAtomLoop, List.filter_map, List.filter_filter, List.map_map,
    List.map_map]
  exact congrArg (List.map label) (List.filter_congr fun a _ => Bool.and_comm _ _)

theorem no_qpeak_rows (atoms : List AtomS) (h : ∀ a ∈ atoms, a.qpeak = true) : atomLoop atoms = [] ∧ adpLoop atoms = [] := by
  simp +contextual [cif_atoms_nonq, cif_adp_aniso, specAtomLoop, specAdpLoop, h]

/-- Uij that cancel: anisotropic by the specification and by the repaired code, isotropic for the original
    `sum(uvals[1:]) == 0` (`fixes/C18_6`) -/
def cancelling : AtomS :=
  { name := "C1", resinum := 0, element := "C", x := 0.1, y := 0.2, z := 0.3, u11 := 0.02, u22 := 0.01, u33 := 0.01,
    u23 := -0.01, u13 := -0.005, u12 := -0.005, occ := 1, part := 0, qpeak := false }

/-- labels of atoms in residues with negative and large numbers keep their suffix (RESI -999 … 9999) -/
example : label { cancelling with resinum := -3 } = "C1_-3" ∧ label { cancelling with resinum := 9999 } = "C1_9999" ∧
    label cancelling = "C1" := by decide +kernel

example : specAniso cancelling = true ∧ isIso cancelling = false := by decide +kernel
theorem legacy_isotropic_fails_on : isIsoLegacy cancelling = true ∧ specAniso cancelling = true := by decide +kernel
example : (atomLoop [cancelling, { cancelling with name := "Q1", qpeak := true }]).map (·.label) = ["C1"] := by decide +kernel

/-- only the two loops are compared with a specification: the data items of `specCif` are the model's own `cifItems`
    (what those hold is said item by item, `cif_values_eq_model` … `size_absent`) -/
theorem exportCif_eq_spec (o : Obj) : exportCif o = specCif o := by
  simp [exportCif, specCif, cif_atoms_nonq, cif_adp_aniso]

/-- in any history of reads, API edits and exports on one object, the CIF an export writes is computed from the state
    the earlier steps leave the object in: nothing is kept from an earlier read, edit or export. Of that CIF `specCif`
    specifies the two loops only; its data items are `cifItems` of that state (`exportCif_eq_spec`) -/
theorem hist_export_reflects_current (o : Obj) (steps : List Step) (k : Nat) (hk : steps[k]? = some .write) :
    (runHist o steps)[countExports (steps.take k)]? = some (specCif ((steps.take k).foldl step o)) := by
  induction steps generalizing o k with
  | nil => simp at hk
  | cons s t ih =>
    cases k with
    | zero =>
      simp only [List.getElem?_cons_zero, Option.some.injEq] at hk
      subst hk
      simp [runHist, countExports, exportCif_eq_spec]
    | succ k =>
      simp only [List.getElem?_cons_succ] at hk
      have := ih (step o s) k hk
      cases s <;> simpa [runHist, countExports, step] using this

/-- non-vacuity: export, read another structure, export — the second CIF is the second structure's -/
example (a b : Obj) :
    (runHist a [.write, .read b, .write])[1]? = some (specCif b) :=
  hist_export_reflects_current a [.write, .read b, .write] 2 rfl

/-- … and an edit of Z between two exports shows in the second one -/
example : ((runHist ⟨bare, []⟩ [.write, .edit (fun o => { o with src := { o.src with zerr := some 4 } }), .write])[1]?).map
    (fun c => match c.items with | .ok l => lookup "_cell_formula_units_Z" l | .error _ => none) = some (some (.num 4)) := by
  decide +kernel

end Shelx.C18
