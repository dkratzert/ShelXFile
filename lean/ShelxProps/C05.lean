/-
  C05 — property theorems (model and specification: ShelxModel/C05.lean; equations of the character-level functions:
  Lemmas/C05Text.lean).

  `normAux` is read as a fold of `lineStep`, the effect of one physical line; a statement about `normAux` is then one about
  a single line plus a routine induction. The simulation by the code's loop (`run_step`), the layout steps that change one
  line (`lineStep st L' = lineStep st L`), letter case (`lineStep_upper`) and splicing (`normAux_append`) are proved this
  way. Where the number of lines changes (`normAux_wrap`: two for one; `norm_insert`: one more) the statement is about
  `normAux` itself.
-/
import ShelxProps.Lemmas.C05Text

namespace Shelx.C05

/-- state: `none` = between instructions, `some acc` = inside a continued instruction; result: the new state and the
    logical lines completed, `none` where `normAux` gives up -/
def lineStep : Option (List Token) → Line → Option (Option (List Token) × List (List Token))
  | none, l =>
    if skip l then some (none, [])
    else if isContLine l then (if (ptoks l).isEmpty then none else some (some (ptoks l), []))
    else some (none, [ptoks l])
  | some acc, l =>
    if indented l then (if isContLine l then some (some (acc ++ ptoks l), []) else some (none, [acc ++ ptoks l]))
    else none

theorem normAux_cons (st : Option (List Token)) (l : Line) (rest : List Line) :
    normAux st (l :: rest) = (lineStep st l).bind fun p => (normAux p.1 rest).map (p.2 ++ ·) := by
  cases st with
  | none =>
    rw [normAux, lineStep]
    cases skip l <;> cases isContLine l <;> cases (ptoks l).isEmpty <;> simp
  | some acc =>
    rw [normAux, lineStep]
    cases indented l <;> cases isContLine l <;> simp

theorem normAux_nil (st : Option (List Token)) (a : List (List Token)) :
    normAux st [] = some a ↔ st = none ∧ a = [] := by
  cases st <;> simp [normAux, eq_comm]

theorem normAux_cons_some {st : Option (List Token)} {l : Line} {rest : List Line} {n : List (List Token)}
    (h : normAux st (l :: rest) = some n) :
    ∃ p n', lineStep st l = some p ∧ normAux p.1 rest = some n' ∧ p.2 ++ n' = n := by
  rw [normAux_cons, Option.bind_eq_some_iff] at h
  obtain ⟨p, hs, h⟩ := h
  obtain ⟨n', hn', e⟩ := Option.map_eq_some_iff.mp h
  exact ⟨p, n', hs, hn', e⟩

theorem lineStep_congr {L L' : Line} (h1 : indented L' = indented L) (h2 : L'.isEmpty = L.isEmpty)
    (h3 : isContLine L' = isContLine L) (h4 : ptoks L' = ptoks L) (st : Option (List Token)) :
    lineStep st L' = lineStep st L := by
  cases st <;> simp [lineStep, skip, h1, h2, h3, h4]

theorem normAux_pre_congr (pre x y : List Line) (h : ∀ st, normAux st x = normAux st y) :
    ∀ st, normAux st (pre ++ x) = normAux st (pre ++ y) := by
  induction pre with
  | nil => exact h
  | cons p pre ih => intro st; simp only [List.cons_append, normAux_cons, ih]

theorem norm_line_congr (pre post : List Line) {L L' : Line} (h : ∀ st, lineStep st L' = lineStep st L) :
    norm (pre ++ L' :: post) = norm (pre ++ L :: post) :=
  normAux_pre_congr pre _ _ (fun st => by rw [normAux_cons, normAux_cons, h]) none

theorem normAux_append (y : List Line) : ∀ (x : List Line) (st : Option (List Token)) (a : List (List Token)),
    normAux st x = some a → normAux st (x ++ y) = (normAux none y).map (a ++ ·) := by
  intro x
  induction x with
  | nil =>
    intro st a h
    obtain ⟨rfl, rfl⟩ := (normAux_nil st a).mp h
    simp
  | cons l rest ih =>
    intro st a h
    obtain ⟨p, a', hs, ha', rfl⟩ := normAux_cons_some h
    rw [List.cons_append, normAux_cons, hs, Option.bind_some, ih _ _ ha', Option.map_map]
    simp [Function.comp_def]

theorem norm_append (x y : List Line) (a : List (List Token)) (h : norm x = some a) :
    norm (x ++ y) = (norm y).map (a ++ ·) := normAux_append y x none a h

/-- the characters of a physical line whose tokens are `ptoks l` -/
def text (l : Line) : List Char := if isContLine l then body (content l) else content l

theorem ptoks_indented {l : Line} (h : indented l = true) : ptoks l = split (text l) := by
  rw [ptoks, h]; rfl

theorem ptoks_not_indented {l : Line} (h : indented l = false) : ptoks l = upperHead (split (text l)) := by
  rw [ptoks, h]; rfl

theorem text_eq (l : Line) : text l = bif plainRem l then content l else body (content l) := by
  cases hr : plainRem l <;> cases ht : trailingEq (content l) <;>
    simp [text, isContLine, hr, ht, body_of_not_trailing]

theorem text_notRem {l : Line} (h : plainRem l = false) : text l = body (content l) := by
  rw [text_eq, h]; rfl

theorem isContLine_notRem {l : Line} (h : plainRem l = false) : isContLine l = trailingEq (content l) := by
  rw [isContLine, h]; exact Bool.and_true _

theorem noBang_text (l : Line) : noBang (text l) := by
  have hp : text l <+: content l := by
    rw [text]; split
    · exact body_prefix _
    · exact List.prefix_refl _
  exact fun c hc => stripComment_noBang l c (hp.mem hc)

theorem split_append_text (C : List Char) {l : Line} (hi : indented l = true) :
    split (C ++ text l) = split C ++ ptoks l := by
  have hs := startsWs_content l (startsWs_of_indented l hi)
  rw [ptoks_indented hi, split_append]
  rw [text]; split
  · exact startsWs_body _ hs
  · exact hs

theorem text_append (a x : List Char) (hB : noBang a) (hx : allWs (content x) = false)
    (hr : plainRem (a ++ x) = false) (hrx : plainRem x = false) :
    isContLine (a ++ x) = isContLine x ∧ text (a ++ x) = a ++ text x := by
  obtain ⟨h1, h2⟩ := marker_append_right a (content x) fun e => by rw [hx] at e; cases e
  rw [isContLine_notRem hr, isContLine_notRem hrx, text_notRem hr, text_notRem hrx, content_append a x hB, h1, h2]
  exact ⟨rfl, rfl⟩

theorem cutNew_cont (C l : List Char) (hC : noBang C) (h : isContLine l = true) : cutNew (C ++ l) = C ++ text l := by
  rw [isContLine, Bool.and_eq_true] at h
  obtain ⟨a, w, hw, hx⟩ := (trailingEq_iff _).mp h.1
  rw [text, isContLine, h.1, h.2, cutNew, stripComment_append C l hC]
  show beforeLastEq (C ++ content l) = C ++ body (content l)
  rw [hx, body_marker a w hw, ← List.append_assoc, beforeLastEq_marker]
  exact fun hm => by simpa [ws_eq] using List.all_eq_true.mp hw _ hm

theorem stripComment_last (C l : List Char) (hC : noBang C) (h : isContLine l = false) :
    stripComment (C ++ l) = C ++ text l := by
  rw [text, h, stripComment_append C l hC]; rfl

/-- the text `C` the code has accumulated (after the cut) against the tokens `acc` the specification has accumulated -/
structure Glued (C : List Char) (acc : List Token) : Prop where
  toks : acc = upperHead (split C)
  noBang : noBang C
  ne : split C ≠ []

theorem Glued.first {l : Line} (hi : indented l = false) (hne : ptoks l ≠ []) : Glued (text l) (ptoks l) := by
  rw [ptoks_not_indented hi] at hne ⊢
  exact ⟨rfl, noBang_text l, fun e => hne ((upperHead_eq_nil _).mpr e)⟩

theorem Glued.next {C : List Char} {acc : List Token} {l : Line} (h : Glued C acc) (hi : indented l = true) :
    Glued (C ++ text l) (acc ++ ptoks l) := by
  obtain ⟨rfl, hC, hne⟩ := h
  have hs := split_append_text C hi
  refine ⟨by rw [hs, upperHead_append _ _ hne], fun c hc => ?_, fun e => hne (List.append_eq_nil_iff.mp (hs ▸ e)).1⟩
  rcases List.mem_append.mp hc with hc | hc
  · exact hC c hc
  · exact noBang_text l c hc

/-- the simulation relation of `run_step`: the code is inside its `while` loop (`some (index of the first line, text glued
    so far)`) exactly when `normAux` is inside an instruction, and the text, once cut, is `Glued` to the tokens -/
def Rel : Option (Nat × Line) → Option (List Token) → Prop
  | none, none => True
  | some (_, cur), some acc => Glued (cutNew cur) acc
  | _, _ => False

/-- the simulation: one physical line moves the loop of the code and `normAux` in step -/
theorem run_step {ms : Option (Nat × Line)} {ss : Option (List Token)} (hrel : Rel ms ss) {l : Line}
    {p : Option (List Token) × List (List Token)} (hs : lineStep ss l = some p) (i : Nat) :
    ∃ ms' out, Rel ms' p.1 ∧ out.map (fun q => tokensOf q.2) = p.2 ∧
      ∀ rest t, run mtNew cutNew (i + 1) ms' rest = .ok t → run mtNew cutNew i ms (l :: rest) = .ok (out ++ t) := by
  match ms, ss, hrel with
  | none, none, _ =>
    by_cases hk : skip l = true
    · rw [lineStep, if_pos hk] at hs
      cases hs
      exact ⟨none, [], trivial, rfl, fun rest t h => by rw [run, if_pos hk]; exact h⟩
    · have hi : indented l = false := by
        rw [skip, Bool.or_eq_true, not_or] at hk
        exact eq_false_of_ne_true hk.1
      by_cases hc : isContLine l = true
      · by_cases he : (ptoks l).isEmpty = true
        · rw [lineStep, if_neg hk, if_pos hc, if_pos he] at hs
          cases hs
        · rw [lineStep, if_neg hk, if_pos hc, if_neg he] at hs
          cases hs
          refine ⟨some (i, l), [], ?_, rfl, fun rest t h => by
            rw [run, if_neg hk, mtNew_eq_isContLine, if_pos hc]; exact h⟩
          have hcut : cutNew l = text l := cutNew_cont [] l (fun _ h => nomatch h) hc
          show Glued (cutNew l) (ptoks l)
          rw [hcut]
          exact Glued.first hi fun e => he (by rw [e]; rfl)
      · rw [lineStep, if_neg hk, if_neg hc] at hs
        cases hs
        refine ⟨none, [(i, l)], trivial, ?_, fun rest t h => by
          rw [run, if_neg hk, mtNew_eq_isContLine, if_neg hc, h]; rfl⟩
        have hl : stripComment l = text l := stripComment_last [] l (fun _ h => nomatch h) (eq_false_of_ne_true hc)
        show [upperHead (split (stripComment l))] = [ptoks l]
        rw [hl, ptoks_not_indented hi]
  | some (s, cur), some acc, hrel =>
    by_cases hi : indented l = true
    · have hg := Glued.next hrel hi
      by_cases hc : isContLine l = true
      · rw [lineStep, if_pos hi, if_pos hc] at hs
        cases hs
        refine ⟨some (s, cutNew cur ++ l), [], ?_, rfl, fun rest t h => by
          rw [run, mtNew_eq_isContLine, if_pos hc]; exact h⟩
        show Glued (cutNew (cutNew cur ++ l)) (acc ++ ptoks l)
        rw [cutNew_cont _ l hrel.noBang hc]
        exact hg
      · rw [lineStep, if_pos hi, if_neg hc] at hs
        cases hs
        refine ⟨none, [(s, cutNew cur ++ l)], trivial, ?_, fun rest t h => by
          rw [run, mtNew_eq_isContLine, if_neg hc, h]; rfl⟩
        show [upperHead (split (stripComment (cutNew cur ++ l)))] = [acc ++ ptoks l]
        rw [stripComment_last _ l hrel.noBang (eq_false_of_ne_true hc), ← hg.toks]
    · rw [lineStep, if_neg hi] at hs
      cases hs

theorem run_of_normAux (f : List Line) : ∀ (i : Nat) (ms : Option (Nat × Line)) (ss : Option (List Token))
    (n : List (List Token)), Rel ms ss → normAux ss f = some n →
    ∃ t, run mtNew cutNew i ms f = .ok t ∧ t.map (fun q => tokensOf q.2) = n := by
  induction f with
  | nil =>
    intro i ms ss n hrel hn
    obtain ⟨rfl, rfl⟩ := (normAux_nil ss n).mp hn
    cases ms with
    | none => exact ⟨[], rfl, rfl⟩
    | some p => exact hrel.elim
  | cons l rest ih =>
    intro i ms ss n hrel hn
    obtain ⟨p, n', hs, hn', rfl⟩ := normAux_cons_some hn
    obtain ⟨ms', out, hrel', hout, h⟩ := run_step hrel hs i
    obtain ⟨t, ht, rfl⟩ := ih (i + 1) ms' p.1 n' hrel' hn'
    exact ⟨out ++ t, h rest t ht, by rw [List.map_append, hout]⟩

/-- For a file with a valid layout, what the repaired continuation loop of `_parse_cards` hands to the rest of the parser
    is, line by line, the specification's logical token lines: gluing characters neither loses, invents nor merges tokens,
    and never reads past the end of the file. `norm f = some n` is the validity of the layout (continuation lines indented,
    no marker on the last line, no marker without instruction); outside it the real code raises IndexError or glues a
    token onto its neighbour (`C1=` + `C2`). -/
theorem glue_tokens (f : List Line) (n : List (List Token)) (h : norm f = some n) : modelTokens f = .ok n := by
  obtain ⟨t, ht, rfl⟩ := run_of_normAux f 0 none none n trivial h
  rw [modelTokens, modelLogicalLines, ht]; rfl

example : norm ["dfix 1.5 c1 = ! x = y".toList, "   C2 =".toList, " C3".toList, "  ignored".toList, "rem a =".toList] =
    some [["DFIX".toList, "1.5".toList, "c1".toList, "C2".toList, "C3".toList], ["REM".toList, "a".toList, "=".toList]] := by
  decide +kernel

/-! The code as it was before fixes/C05_1 and C05_2: the same statement fails. -/

/-- `Except` has no `DecidableEq`: for `decide`, the outcome of a run is compared as an `Option`, the error dropped -/
def okOf {α} : Except PyErr α → Option α
  | .ok a => some a
  | .error _ => none

def GlueStatement (m : List Line → Except PyErr (List (List Token))) : Prop :=
  ∀ f n, norm f = some n → m f = .ok n

theorem glue_holds_repaired : GlueStatement modelTokens := glue_tokens

theorem not_glue_of_witness {m : List Line → Except PyErr (List (List Token))} (f : List Line)
    (n : List (List Token)) (h : norm f = some n ∧ okOf (m f) ≠ some n) : ¬ GlueStatement m :=
  fun hg => h.2 (congrArg okOf (hg f n h.1))

/-- a '!' comment that contains '=' swallows the next instruction -/
theorem old_fails_on_comment_with_eq : ¬ GlueStatement modelTokensOld :=
  not_glue_of_witness ["TEMP -100 ! T = low".toList, "L.S. 10".toList]
    [["TEMP".toList, "-100".toList], ["L.S.".toList, "10".toList]] (by decide +kernel)

/-- `rem a = b` in lower case: the REM exemption was case-sensitive -/
theorem old_fails_on_lower_case_rem : ¬ GlueStatement modelTokensOld :=
  not_glue_of_witness ["rem a = b".toList, "L.S. 10".toList]
    [["REM".toList, "a".toList, "=".toList, "b".toList], ["L.S.".toList, "10".toList]] (by decide +kernel)

/-- a wrapped line whose comment contains another '=': the text is cut inside the comment -/
theorem old_fails_on_comment_after_marker : ¬ GlueStatement modelTokensOld :=
  not_glue_of_witness ["DFIX 1.5 C1 C2 = ! a = b".toList, "  C3 C4".toList]
    [["DFIX".toList, "1.5".toList, "C1".toList, "C2".toList, "C3".toList, "C4".toList]] (by decide +kernel)

/-- a '=' comment on the last line: the old loop reads past the end of the file (IndexError) -/
theorem old_raises_on_last_line : okOf (modelTokensOld ["END ! a=b".toList]) = none ∧
    okOf (modelTokens ["END ! a=b".toList]) = some [["END".toList]] := by decide +kernel

/-- blanks are the only white space in `a` (no tab, no form feed) -/
def onlyBlanks (a : List Char) : Prop := ∀ c ∈ a, ws c = true → c = ' '

instance (a : List Char) : Decidable (onlyBlanks a) := by unfold onlyBlanks; infer_instance

/-- what `LayoutStep.wrap` asks of the line `a ++ ' ' :: b` it wraps at that blank; the reasons are given at `LayoutStep` -/
structure WrapHyp (a b : List Char) : Prop where
  noBang : noBang a
  notRem : plainRem (a ++ ' ' :: b) = false
  /-- nor is the first of the two new lines, `a ++ " ="`, a free-text REM line -/
  notRem1 : plainRem (a ++ [' ', '=']) = false
  token : split (content b) ≠ []
  blanks : onlyBlanks a

/-- `k` has no white space, no `!` and no `=`: it lies inside one token and holds neither comment nor marker -/
def kwChars (k : List Char) : Prop := ∀ c ∈ k, ws c = false ∧ c ≠ '!' ∧ c ≠ '='

instance (k : List Char) : Decidable (kwChars k) := by unfold kwChars; infer_instance

/-- `r` is empty or starts with white space: the token in front of it ends there -/
def restOk (r : List Char) : Prop := r = [] ∨ ∃ s r', r = s :: r' ∧ ws s = true

/-- `pre` does not end in a line that carries the continuation marker -/
def boundary (pre : List Line) : Prop := ∀ p ∈ pre.getLast?, isContLine p = false

/-- One elementary change of layout, comment or keyword case. What the hypotheses exclude:
    * `noBang a` — the edit is in the instruction part of the line, not inside a comment;
    * `plainRem … = false` — REM lines are free text: their blanks are content and they are never continued (`REM a b`
      wrapped into `REM a =` / ` b` is a different file; real code and spec agree on that);
    * `WrapHyp.token` — a wrap point has a token after it (otherwise the new ` =` would follow an old marker);
    * `WrapHyp.blanks` — blanks are the only white space in front of the wrap point (a line that starts with a tab is not
      indented for `line.startswith(' ')`);
    * `L ≠ []` in `comment` — with a comment an empty line becomes an indented one, which may end a continued instruction
      where the empty line may not;
    * `boundary pre` — blank lines and indented comment lines are added between instructions, not between a line that
      carries the marker and its continuation;
    * `kwChars`/`restOk` — `k` is exactly the first token of a non-indented line. -/
inductive LayoutStep : List Line → List Line → Prop
  | wrap (pre post : List Line) (a b : List Char) (h : WrapHyp a b) :
      LayoutStep (pre ++ (a ++ ' ' :: b) :: post) (pre ++ (a ++ [' ', '=']) :: (' ' :: b) :: post)
  | blanks (pre post : List Line) (a b : List Char) (hB : noBang a)
      (hr : plainRem (a ++ ' ' :: b) = false) (hr' : plainRem (a ++ ' ' :: ' ' :: b) = false) :
      LayoutStep (pre ++ (a ++ ' ' :: b) :: post) (pre ++ (a ++ ' ' :: ' ' :: b) :: post)
  | comment (pre post : List Line) (L t : List Char) (hne : L ≠ []) (hB : noBang L)
      (hr : plainRem L = false) (hr' : plainRem (L ++ ' ' :: '!' :: t) = false) :
      LayoutStep (pre ++ L :: post) (pre ++ (L ++ ' ' :: '!' :: t) :: post)
  | blankLine (pre post : List Line) (e : List Char) (he : ∀ c ∈ e, c = ' ') (hb : boundary pre) :
      LayoutStep (pre ++ post) (pre ++ e :: post)
  | commentLine (pre post : List Line) (t : List Char) (hb : boundary pre) :
      LayoutStep (pre ++ post) (pre ++ (' ' :: t) :: post)
  | kwCase (pre post : List Line) (k k' r : List Char) (hne : k ≠ []) (hne' : k' ≠ []) (hk : kwChars k)
      (hk' : kwChars k') (hu : upper k = upper k') (hr : restOk r) :
      LayoutStep (pre ++ (k ++ r) :: post) (pre ++ (k' ++ r) :: post)

/-- the equivalence that `LayoutStep` generates: a chain of steps, each taken forwards or backwards -/
inductive LayoutEq : List Line → List Line → Prop
  | refl (f) : LayoutEq f f
  | step {f g h} : LayoutEq f g → LayoutStep g h → LayoutEq f h
  | back {f g h} : LayoutEq f g → LayoutStep h g → LayoutEq f h

theorem insert_blank (a c : List Char) (hc : startsWs c = true) :
    trailingEq (a ++ ' ' :: c) = trailingEq (a ++ c) ∧ split (body (a ++ ' ' :: c)) = split (body (a ++ c)) := by
  simp only [trailingEq_append, body_append, allWs_cons, ws_blank, Bool.true_and, trailingEq_cons_ws _ _ ws_blank,
    body_cons_ws _ _ ws_blank, true_and]
  cases hw : allWs c with
  | true =>
    cases trailingEq a with
    | true => rfl
    | false =>
      have hw' : allWs (' ' :: c) = true := by rw [allWs_cons, ws_blank, hw]; rfl
      simp only [↓reduceIte, Bool.false_eq_true, split_append_allWs _ _ hw, split_append_allWs _ _ hw']
  | false =>
    simp only [Bool.false_eq_true, ↓reduceIte]
    rw [split_append a (' ' :: _) ws_blank, split_append a _ (startsWs_body c hc), split_cons_ws _ _ ws_blank]

/-- the `blanks` and the `comment` step: the non-comment part gains a blank in front of white space or at its end -/
theorem lineStep_insert_blank (a y y' : List Char) (hB : noBang a) (hy : content y' = content y)
    (hs : startsWs (content y) = true) (hr : plainRem (a ++ y) = false) (hr' : plainRem (a ++ ' ' :: y') = false)
    (h0 : a = [] → indented y = true) (st : Option (List Token)) :
    lineStep st (a ++ ' ' :: y') = lineStep st (a ++ y) := by
  have hc : content (a ++ ' ' :: y') = a ++ ' ' :: content y := by
    rw [content_append a _ hB, content_cons_ws _ _ ws_blank, hy]
  obtain ⟨hm, hb⟩ := insert_blank a (content y) hs
  rw [← hc, ← content_append a y hB] at hm hb
  have hi : indented (a ++ ' ' :: y') = indented (a ++ y) ∧ (a ++ ' ' :: y').isEmpty = (a ++ y).isEmpty := by
    cases a with
    | nil =>
      cases y with
      | nil => cases h0 rfl
      | cons c y => exact ⟨(h0 rfl).symm, rfl⟩
    | cons c a => exact ⟨by rw [List.cons_append, List.cons_append, indented_cons, indented_cons], rfl⟩
  refine lineStep_congr hi.1 hi.2 (by rw [isContLine_notRem hr, isContLine_notRem hr', hm]) ?_ st
  rw [ptoks, ptoks, hi.1, ← text, ← text, text_notRem hr, text_notRem hr', hb]

/-- two lines for one, so no `lineStep` equation: `l1` carries the marker in the place of `L`, `l2` ends as `L` did -/
theorem normAux_wrap {L l1 l2 : Line} (post : List Line)
    (hi1 : indented l1 = indented L) (heL : L.isEmpty = false) (he1 : l1.isEmpty = false)
    (hi2 : indented l2 = true) (hc1 : isContLine l1 = true) (hc2 : isContLine l2 = isContLine L)
    (hp : ptoks L = ptoks l1 ++ ptoks l2) (hne : indented L = false → ptoks l1 ≠ []) :
    ∀ st, normAux st (L :: post) = normAux st (l1 :: l2 :: post) := by
  intro st
  cases hi : indented L with
  | true => cases st <;> simp [normAux, skip, hi, hi1, hi2, hc1, hc2, hp, List.append_assoc]
  | false =>
    have hne1 := hne hi
    cases st <;> cases hc : isContLine L <;> simp [normAux, skip, hi, hi1, hi2, heL, he1, hc1, hc2, hp, hc, hne1]

theorem normAux_wrap_blank (a b : List Char) (h : WrapHyp a b) (post : List Line) :
    ∀ st, normAux st ((a ++ ' ' :: b) :: post) = normAux st ((a ++ [' ', '=']) :: (' ' :: b) :: post) := by
  have hx : allWs (content (' ' :: b)) = false := by
    rw [content_cons_ws _ _ ws_blank, allWs_cons, ws_blank, Bool.true_and, ← Bool.not_eq_true, ← split_eq_nil]
    exact h.token
  obtain ⟨hcL, htL⟩ := text_append a (' ' :: b) h.noBang hx h.notRem (plainRem_indented b)
  obtain ⟨hc1, ht1⟩ := text_append a [' ', '='] h.noBang (by decide) h.notRem1 (plainRem_indented _)
  have hm : isContLine [' ', '='] = true ∧ text [' ', '='] = [' '] := by decide
  have hi1 : indented (a ++ [' ', '=']) = indented (a ++ ' ' :: b) := by cases a <;> simp [indented_cons]
  have hS1 : split (text (a ++ [' ', '='])) = split a := by
    rw [ht1, hm.2, split_append_allWs a [' '] (by decide)]
  have hT : split (text (a ++ ' ' :: b)) = split (text (a ++ [' ', '='])) ++ ptoks (' ' :: b) := by
    rw [htL, hS1, split_append_text a rfl]
  -- a line that is not indented keeps its keyword on the first part
  have hA : indented (a ++ ' ' :: b) = false → split (text (a ++ [' ', '='])) ≠ [] := by
    rw [hS1]
    intro hi
    cases a with
    | nil => cases hi
    | cons c a =>
      rw [List.cons_append, indented_cons] at hi
      have hc : ws c = false := by
        cases hw : ws c with
        | false => rfl
        | true => rw [h.blanks c (by simp) hw] at hi; cases hi
      simp [split_eq_nil, allWs_cons, hc]
  apply normAux_wrap post hi1
  case heL | he1 => cases a <;> rfl
  case hi2 => rfl
  case hc1 => rw [hc1, hm.1]
  case hc2 => exact hcL.symm
  case hp =>
    cases hi : indented (a ++ ' ' :: b) with
    | true => rw [ptoks_indented hi, ptoks_indented (hi1.trans hi), hT]
    | false =>
      rw [ptoks_not_indented hi, ptoks_not_indented (hi1.trans hi), hT, upperHead_append _ _ (hA hi)]
  case hne =>
    intro hi
    rw [ptoks_not_indented (hi1.trans hi)]
    exact fun e => hA hi ((upperHead_eq_nil _).mp e)

theorem plainRem_upper (L L' : List Char) (h : upper L = upper L') : plainRem L = plainRem L' := by
  have h3 : upper (L.take 3) = upper (L'.take 3) := by
    simp only [upper] at h ⊢; rw [List.map_take, List.map_take, h]
  simp only [plainRem, dsrMatch, h, h3]

theorem kw_line (k r : List Char) (hne : k ≠ []) (hk : kwChars k) (hr : restOk r) :
    indented (k ++ r) = false ∧ (k ++ r).isEmpty = false ∧
    isContLine (k ++ r) = (trailingEq (content r) && !plainRem (k ++ r)) ∧
    ptoks (k ++ r) = upper k :: split (bif plainRem (k ++ r) then content r else body (content r)) := by
  have hs : startsWs (content r) = true := by
    apply startsWs_content
    rcases hr with rfl | ⟨s, r', rfl, hs⟩
    · rfl
    · exact hs
  have hm : trailingEq k = false := by
    cases h : trailingEq k with
    | false => rfl
    | true =>
      obtain ⟨a, w, _, rfl⟩ := (trailingEq_iff k).mp h
      exact absurd rfl (hk '=' (by simp)).2.2
  obtain ⟨h1, h2⟩ := marker_append_right k (content r) fun _ => hm
  have hc : content (k ++ r) = k ++ content r := content_append k r fun c hc => (hk c hc).2.1
  have hi : indented (k ++ r) = false ∧ (k ++ r).isEmpty = false := by
    cases k with
    | nil => exact absurd rfl hne
    | cons c k =>
      refine ⟨?_, rfl⟩
      rw [List.cons_append, indented_cons, beq_eq_false_iff_ne]
      exact (ws_ne ws_blank (hk c (by simp)).1).symm
  have ht : text (k ++ r) = k ++ bif plainRem (k ++ r) then content r else body (content r) := by
    rw [text_eq, hc, h2]; cases plainRem (k ++ r) <;> rfl
  refine ⟨hi.1, hi.2, by rw [isContLine, hc, h1], ?_⟩
  rw [ptoks_not_indented hi.1, ht, split_append k, split_token k hne fun c hc => (hk c hc).1]
  · rfl
  · cases plainRem (k ++ r)
    · exact startsWs_body _ hs
    · exact hs

theorem lineStep_kwCase (k k' r : List Char) (hne : k ≠ []) (hne' : k' ≠ []) (hk : kwChars k) (hk' : kwChars k')
    (hu : upper k = upper k') (hr : restOk r) (st : Option (List Token)) :
    lineStep st (k' ++ r) = lineStep st (k ++ r) := by
  obtain ⟨hi, he, hc, hp⟩ := kw_line k r hne hk hr
  obtain ⟨hi', he', hc', hp'⟩ := kw_line k' r hne' hk' hr
  have hpr : plainRem (k' ++ r) = plainRem (k ++ r) := by
    apply plainRem_upper
    simp only [upper, List.map_append] at hu ⊢
    rw [hu]
  exact lineStep_congr (hi'.trans hi.symm) (he'.trans he.symm) (by rw [hc', hc, hpr]) (by rw [hp', hp, hpr, hu]) st

theorem norm_insert (e : Line) (he : skip e = true) (pre post : List Line) (hb : boundary pre) :
    norm (pre ++ post) = norm (pre ++ e :: post) := by
  rcases List.eq_nil_or_concat pre with rfl | ⟨pre', p, rfl⟩
  · simp [norm, normAux, he]
  · -- behind a line without the marker the state is `none`, whatever it was in front of it
    have hp : isContLine p = false := hb p (by simp)
    rw [List.concat_eq_append, List.append_assoc, List.append_assoc]
    exact normAux_pre_congr pre' _ _ (fun st => by cases st <;> simp [normAux, hp, he]) none

/-- A layout step changes neither the logical lines nor whether the layout is valid (`none = none` for files that are
    not). -/
theorem layout_preserves_norm {f f' : List Line} (h : LayoutStep f f') : norm f = norm f' := by
  cases h with
  | wrap pre post a b h => exact normAux_pre_congr pre _ _ (normAux_wrap_blank a b h post) none
  | blanks pre post a b hB hr hr' =>
    refine (norm_line_congr pre post ?_).symm
    exact lineStep_insert_blank a (' ' :: b) (' ' :: b) hB rfl (startsWs_content _ ws_blank) hr hr' fun _ => rfl
  | comment pre post L t hne hB hr hr' =>
    refine (norm_line_congr pre post fun st => ?_).symm
    have h := lineStep_insert_blank L [] ('!' :: t) hB rfl rfl (by rw [List.append_nil]; exact hr) hr'
      (fun e => absurd e hne) st
    rw [List.append_nil] at h
    exact h
  | blankLine pre post e he hb =>
    apply norm_insert e _ pre post hb
    cases e with
    | nil => rfl
    | cons c e' => rw [he c (by simp)]; rfl
  | commentLine pre post t hb => exact norm_insert _ rfl pre post hb
  | kwCase pre post k k' r hne hne' hk hk' hu hr =>
    exact (norm_line_congr pre post (lineStep_kwCase k k' r hne hne' hk hk' hu hr)).symm

theorem layoutEq_norm {f f' : List Line} (h : LayoutEq f f') : norm f = norm f' := by
  induction h with
  | refl => rfl
  | step _ s ih => exact ih.trans (layout_preserves_norm s)
  | back _ s ih => exact ih.trans (layout_preserves_norm s).symm

/-- Two files that differ only by layout steps, one of them a valid layout: for both the repaired continuation loop hands
    the same token lines (keyword upper-cased, everything else as written) to the rest of the parser, without raising. -/
theorem layout_invariance {f f' : List Line} (h : LayoutEq f f') (n : List (List Token)) (hv : norm f = some n) :
    modelTokens f = .ok n ∧ modelTokens f' = .ok n :=
  ⟨glue_tokens f n hv, glue_tokens f' n ((layoutEq_norm h).symm.trans hv)⟩

theorem LayoutStep.cast {f g f' g' : List Line} (h : LayoutStep f g) (e1 : f = f') (e2 : g = g') :
    LayoutStep f' g' := e1 ▸ e2 ▸ h

example : LayoutEq ["DFIX 1.5 C1 C2".toList, "END".toList]
    ["dfix 1.5 = ! a = b".toList, " C1 C2".toList, "END".toList] :=
  -- `cast` brings each step to the file the previous one has produced; only the last file is written out
  .step (.step (.step (.refl _)
    ((LayoutStep.wrap [] ["END".toList] "DFIX 1.5".toList "C1 C2".toList
      ⟨by decide +kernel, by decide +kernel, by decide +kernel, by decide +kernel, by decide +kernel⟩).cast
      (by decide +kernel) rfl))
    ((LayoutStep.comment [] [" C1 C2".toList, "END".toList] "DFIX 1.5 =".toList " a = b".toList (by decide +kernel)
      (by decide +kernel) (by decide +kernel) (by decide +kernel)).cast (by decide +kernel) rfl))
    ((LayoutStep.kwCase [] [" C1 C2".toList, "END".toList] "DFIX".toList "dfix".toList " 1.5 = ! a = b".toList
      (by decide +kernel) (by decide +kernel) (by decide +kernel) (by decide +kernel) (by decide +kernel)
      (Or.inr ⟨' ', _, rfl, by decide +kernel⟩)).cast (by decide +kernel) (by decide +kernel))

/-- after fixes/C05_3 the residue numbers a restraint's class suffix resolves to do not depend on the letter case of the
    RESI classes or of the suffix -/
theorem class_lookup_ci (rs rs' : List (Token × Int)) (s s' : Token)
    (hr : rs.map (fun r => (upper r.1, r.2)) = rs'.map (fun r => (upper r.1, r.2))) (hs : upper s = upper s') :
    classNumbers keyNew rs s = classNumbers keyNew rs' s' := by
  -- the lookup sees the table only through its upper-case form
  have key : ∀ (rs : List (Token × Int)) (s : Token), (rs.filter fun r => keyNew r.1 (upper s)).map (·.2) =
      ((rs.map fun r => (upper r.1, r.2)).filter fun q => q.1 == upper (upper s)).map (·.2) := by
    intro rs s
    simp [keyNew, List.filter_map, Function.comp_def]
  simp only [classNumbers, key, hr, hs]

/-- the code as it was: `RESI ccf 1` is not found by `SADI_ccf` (suffix upper-cased, dictionary key as written) -/
theorem class_lookup_old_fails :
    classNumbers keyOld [("ccf".toList, 1)] "ccf".toList = [0] ∧
    specClassNumbers [("ccf".toList, 1)] "ccf".toList = [1] ∧
    classNumbers keyNew [("ccf".toList, 1)] "ccf".toList = [1] := by decide +kernel

/-! Letter case: upper-casing never touches the characters the layout is made of. -/

/-- white space, `!`, `=`: what token boundaries, indentation, comments and the continuation marker are tested against -/
def layoutChar (c : Char) : Bool := ws c || c == '!' || c == '='

theorem layoutChar_of_alpha {c : Char} (h : c.isAlpha = true) : layoutChar c = false :=
  Bool.eq_false_iff.2 fun hl => by
  simp only [layoutChar, ws, Bool.or_eq_true, beq_iff_eq] at hl
  -- twelve characters, none of them a letter
  rcases hl with ((((((((((rfl | rfl) | rfl) | rfl) | rfl) | rfl) | rfl) | rfl) | rfl) | rfl) | rfl) | rfl <;> cases h

/-- `toUpper` leaves `c` alone, or neither `c` nor its image is a layout character and the image is left alone -/
theorem toUpper_spec (c : Char) :
    c.toUpper = c ∨ (layoutChar c = false ∧ layoutChar c.toUpper = false ∧ c.toUpper.toUpper = c.toUpper) := by
  cases h : c.isLower with
  | false => exact .inl (toUpper_of_not_lower h)
  | true =>
    exact .inr ⟨layoutChar_of_alpha (by rw [Char.isAlpha, h, Bool.or_true]),
      layoutChar_of_alpha (by rw [Char.isAlpha, isUpper_toUpper h, Bool.true_or]), toUpper_idem c⟩

theorem toUpper_ws (c : Char) : ws c.toUpper = ws c := by
  rcases toUpper_spec c with h | ⟨h1, h2, _⟩
  · rw [h]
  · simp only [layoutChar, Bool.or_eq_false_iff] at h1 h2
    obtain ⟨⟨hw, _⟩, _⟩ := h1
    obtain ⟨⟨hw', _⟩, _⟩ := h2
    rw [hw, hw']

theorem toUpper_beq (c d : Char) (hd : layoutChar d = true) : (c.toUpper == d) = (c == d) := by
  rcases toUpper_spec c with h | ⟨h1, h2, _⟩
  · rw [h]
  · have hu : c.toUpper ≠ d := fun e => by rw [e, hd] at h2; cases h2
    have hc : c ≠ d := fun e => by rw [e, hd] at h1; cases h1
    rw [beq_eq_false_iff_ne.mpr hu, beq_eq_false_iff_ne.mpr hc]

theorem upper_cons (c : Char) (l : List Char) : upper (c :: l) = c.toUpper :: upper l := rfl

theorem upper_idem (l : List Char) : upper (upper l) = upper l := by
  simp [upper, Function.comp_def, toUpper_idem]

theorem allWs_upper (l : List Char) : allWs (upper l) = allWs l := by
  simp [allWs, upper, List.all_map, Function.comp_def, toUpper_ws]

theorem stripComment_upper (l : List Char) : stripComment (upper l) = upper (stripComment l) := by
  have h : ((· != '!') ∘ Char.toUpper) = (· != '!') := funext fun c => by simp [bne, toUpper_beq c '!' rfl]
  rw [stripComment, upper, List.takeWhile_map, h]; rfl

theorem split_upper (l : List Char) : split (upper l) = (split l).map upper := by
  induction l with
  | nil => rfl
  | cons c cs ih =>
    have hs : startsWs (upper cs) = startsWs cs := by
      cases cs with
      | nil => rfl
      | cons d ds => exact toUpper_ws d
    simp only [upper_cons, split, toUpper_ws, hs, ih]
    split
    · rfl
    · split
      · rfl
      · cases split cs <;> rfl

theorem trailingEq_upper (l : List Char) : trailingEq (upper l) = trailingEq l := by
  induction l with
  | nil => rfl
  | cons c cs ih => simp only [upper_cons, trailingEq, toUpper_beq c '=' rfl, allWs_upper, ih]

theorem body_upper (l : List Char) : body (upper l) = upper (body l) := by
  induction l with
  | nil => rfl
  | cons c cs ih =>
    simp only [upper_cons, body, toUpper_beq c '=' rfl, allWs_upper, ih]
    split <;> rfl

theorem indented_upper (l : List Char) : indented (upper l) = indented l := by
  cases l with
  | nil => rfl
  | cons c l => rw [upper_cons, indented_cons, indented_cons, toUpper_beq c ' ' rfl]

theorem isContLine_upper (l : List Char) : isContLine (upper l) = isContLine l := by
  simp only [isContLine, content, stripComment_upper, trailingEq_upper, plainRem_upper _ _ (upper_idem l)]

theorem upperHead_map (t : List Token) : upperHead (t.map upper) = (upperHead t).map upper := by
  cases t <;> rfl

theorem ptoks_upper (l : List Char) : ptoks (upper l) = (ptoks l).map upper := by
  simp only [ptoks, isContLine_upper, indented_upper, content, stripComment_upper]
  cases isContLine l <;> cases indented l <;> simp [body_upper, split_upper, upperHead_map]

/-- all tokens in capitals: `norm` capitalises the keyword only (`upperHead`); outcomes are compared up to letter case through this -/
def upAll (n : List (List Token)) : List (List Token) := n.map (·.map upper)

theorem lineStep_upper (st : Option (List Token)) (l : Line) :
    lineStep (st.map (·.map upper)) (upper l) = (lineStep st l).map fun p => (p.1.map (·.map upper), upAll p.2) := by
  have hk : skip (upper l) = skip l := by
    rw [skip, skip, indented_upper]; cases l <;> rfl
  cases st with
  | none =>
    simp only [Option.map_none, lineStep, hk, isContLine_upper, ptoks_upper, List.isEmpty_map]
    cases skip l <;> cases isContLine l <;> cases (ptoks l).isEmpty <;> rfl
  | some acc =>
    simp only [Option.map_some, lineStep, indented_upper, isContLine_upper, ptoks_upper]
    cases indented l <;> cases isContLine l <;> simp [upAll]

theorem normAux_upper (f : List Line) : ∀ st : Option (List Token),
    normAux (st.map (·.map upper)) (f.map upper) = (normAux st f).map upAll := by
  induction f with
  | nil => intro st; cases st <;> rfl
  | cons l rest ih =>
    intro st
    rw [List.map_cons, normAux_cons, normAux_cons, lineStep_upper]
    cases lineStep st l with
    | none => rfl
    | some p => simp [ih, Option.map_map, Function.comp_def, upAll]

/-- Writing a whole file in capitals (every letter: keywords, the words of a DSR command, element symbols, atom names,
    residue classes, the text of comments) changes neither whether its layout is valid nor its logical lines, apart from
    the letter case of the tokens themselves. -/
theorem norm_upper (f : List Line) : norm (f.map upper) = (norm f).map upAll := normAux_upper f none

/-- Two files that differ only in letter case have the same logical lines up to letter case: the same lines are continued,
    and `rem dsr put … =` exactly when `REM DSR PUT … =` is. -/
theorem case_invariance (f f' : List Line) (h : f.map upper = f'.map upper) :
    (norm f).map upAll = (norm f').map upAll := by
  rw [← norm_upper, ← norm_upper, h]

/-- … and the repaired continuation loop hands the same tokens, up to letter case, to the rest of the parser -/
theorem case_invariance_model (f f' : List Line) (n : List (List Token)) (h : f.map upper = f'.map upper)
    (hv : norm f = some n) : ∃ n', modelTokens f' = .ok n' ∧ upAll n' = upAll n := by
  have hc := case_invariance f f' h
  rw [hv, Option.map_some, eq_comm, Option.map_eq_some_iff] at hc
  obtain ⟨n', hn, he⟩ := hc
  exact ⟨n', glue_tokens f' n' hn, he⟩

example : (norm ["rem Dsr put CF3 with C1 c2 = ! d=1".toList, "  on c1 C2 =".toList, " part 2".toList, "end".toList]).map upAll =
    (norm ["REM DSR PUT CF3 WITH C1 C2 = ! D=1".toList, "  ON C1 C2 =".toList, " PART 2".toList, "END".toList]).map upAll :=
  case_invariance _ _ (by decide +kernel)

/-- Include files (`_find_included_files` splices the lines of a '+filename' include file into the line list behind the
    '+' line): two versions of the include file that are valid layouts with the same logical lines (e.g. related by
    `LayoutStep`s) give spliced files with the same logical lines, whatever follows (`post` need not be valid: then both
    sides are `none`). `hpre`: no instruction is left open where the '+' line stands; the real code glues a '+' line behind
    a continuation marker onto that instruction. -/
theorem include_layout_invariance (pre inc inc' post : List Line) (p i : List (List Token))
    (hpre : norm pre = some p) (hinc : norm inc = some i) (hinc' : norm inc' = some i) :
    norm (pre ++ (inc ++ post)) = norm (pre ++ (inc' ++ post)) := by
  rw [norm_append pre _ p hpre, norm_append pre _ p hpre, norm_append inc post i hinc, norm_append inc' post i hinc']

/-- the hypotheses are met: an include file whose indented first line would parse as an instruction and whose instruction
    is continued, against the plain one -/
example : norm ["+r.inc".toList] = some [["+R.INC".toList]] ∧
    norm ["   DFIX 1.43 0.02 O1 C1".toList, "SADI C1 C2 = ! a".toList, "  C1 C3".toList, "".toList] =
      some [["SADI".toList, "C1".toList, "C2".toList, "C1".toList, "C3".toList]] ∧
    norm ["SADI C1 C2 C1 C3".toList] = some [["SADI".toList, "C1".toList, "C2".toList, "C1".toList, "C3".toList]] := by
  decide +kernel

/-- `hpre` cannot be dropped: an open instruction in front swallows the first line of the block. `pre = ["DFIX 1.5 C1 ="]`
    has `norm pre = none`; `inc = ["  C2"]` and `inc' = [" ", "  C2"]` meet `hinc`, `hinc'` (`norm` of both is `some []`);
    `post = []`. Only the left side gets the token `C2`. -/
theorem include_needs_complete_prefix :
    norm ("DFIX 1.5 C1 =".toList :: (["  C2".toList] ++ [])) ≠ norm ("DFIX 1.5 C1 =".toList :: ([" ".toList, "  C2".toList] ++ [])) := by
  decide +kernel

end Shelx.C05
