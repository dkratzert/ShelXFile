/-
  C13 — property theorems (model and specification: ShelxModel/C13.lean; thresholds, bond condition and radii:
  ShelxModel/Extracted/SdmC13.lean, regenerated on every run by running the code of the tree under test on
  symbolic numbers: extract/probe_c13.py).

  Partial: the theorems are about exact arithmetic, over any linearly ordered field `K`, with `floor` and `sqrt`
  as functions given by their defining properties (`IsFloor`, `IsSqrt`). Nothing is claimed about rounding in IEEE
  doubles; the implementation is compared with the model and with a brute-force oracle at 1e-9.
  `IsFloor` has a witness (`isFloor_rat`); `IsSqrt` and `RecipBound` have none here.
  The theorems are about one pair of atoms (`selectOp` on `opLengths`) and about `calcMolindex` on any list of items.
  `calcSdm` (the two atom loops and the sort) and the executable oracles `specPair`, `specLabels` occur in no theorem:
  they are what the driver (`ShelxModel/Drv/C13.lean`) evaluates in `Float` for the comparison with the implementation.
  The thresholds baked into `calc_sdm` are hypotheses where the proofs need them.
  The loop invariant and the termination measure of the molecule numbering are in `Lemmas/C13Mol.lean`.
-/
import ShelxModel.C13
import ShelxModel.Extracted.C13Src
import ShelxProps.Lemmas.C13Mol
import Mathlib.Tactic.Ring
import Mathlib.Tactic.Linarith
import Mathlib.Tactic.NormNum
import Mathlib.Tactic.Push
import Mathlib.Algebra.Order.Field.Basic

namespace Shelx.C13

-- one number type for the file: every theorem takes all three instances on `K`, also where it needs fewer
set_option linter.unusedSectionVars false

variable {K : Type} [Field K] [LinearOrder K] [IsStrictOrderedRing K]

def IsInt (x : K) : Prop := ∃ n : ℤ, x = (n : K)

structure IsFloor (fl : K → K) : Prop where
  isInt : ∀ x, IsInt (fl x)
  le : ∀ x, fl x ≤ x
  lt : ∀ x, x < fl x + 1

structure IsSqrt (sq : K → K) : Prop where
  nonneg : ∀ x, 0 ≤ x → 0 ≤ sq x
  sq_mul : ∀ x, 0 ≤ x → sq x * sq x = x

/-- the hypothesis `IsFloor` is not vacuous -/
theorem isFloor_rat : IsFloor (fun x : ℚ => ((Rat.floor x : ℤ) : ℚ)) where
  isInt x := ⟨Rat.floor x, rfl⟩
  le x := Rat.floor_le x
  lt x := by simpa using Rat.lt_floor_add_one x

theorem isInt_sub {a b : K} (ha : IsInt a) (hb : IsInt b) : IsInt (a - b) := by
  obtain ⟨m, rfl⟩ := ha
  obtain ⟨n, rfl⟩ := hb
  exact ⟨m - n, (Int.cast_sub m n).symm⟩

theorem isInt_neg {a : K} (ha : IsInt a) : IsInt (-a) := by
  obtain ⟨m, rfl⟩ := ha
  exact ⟨-m, (Int.cast_neg m).symm⟩

theorem isInt_eq_zero_of_abs_lt_one {x : K} (hx : IsInt x) (h : |x| < 1) : x = 0 := by
  obtain ⟨k, rfl⟩ := hx
  rw [← Int.cast_abs, ← Int.cast_one, Int.cast_lt, Int.abs_lt_one_iff] at h
  rw [h, Int.cast_zero]

/-- the code's `D + ½ - floor(D + ½) - ½` lies in [-½, ½) and differs from `d` by an integer -/
theorem wrap_component {fl : K → K} (hf : IsFloor fl) {half : K} (hh : 2 * half = 1) (d : K) :
    -half ≤ wrap fl half d ∧ wrap fl half d < half ∧ IsInt (d - wrap fl half d) := by
  have h1 := hf.le (d + half)
  have h2 := hf.lt (d + half)
  obtain ⟨n, hn⟩ := hf.isInt (d + half)
  simp only [wrap]
  refine ⟨by linarith, by linarith, n, ?_⟩
  rw [← hn]; ring

theorem wrap_unique {fl : K → K} (hf : IsFloor fl) {half : K} (hh : 2 * half = 1) (d w : K)
    (h1 : -half ≤ w) (h2 : w < half) (hi : IsInt (d - w)) : wrap fl half d = w := by
  obtain ⟨a, b, hm⟩ := wrap_component hf hh d
  have hk : IsInt (wrap fl half d - w) := by
    have := isInt_sub hi hm
    rwa [sub_sub_sub_cancel_left] at this
  exact sub_eq_zero.mp (isInt_eq_zero_of_abs_lt_one hk (abs_lt.mpr ⟨by linarith, by linarith⟩))

example : wrap (fun x : ℚ => ((Rat.floor x : ℤ) : ℚ)) (1/2) (7/4) = -1/4 := by
  apply wrap_unique isFloor_rat (by norm_num)
  · norm_num
  · norm_num
  · exact ⟨2, by norm_num⟩

theorem wrap_eq_add {fl : K → K} (hf : IsFloor fl) {half : K} (hh : 2 * half = 1) {d n : K} (hn : IsInt n)
    (h : |d + n| < 1 / 2) : wrap fl half d = d + n := by
  obtain rfl : half = 1 / 2 := by linarith
  rw [abs_lt] at h
  refine wrap_unique hf hh d (d + n) h.1.le h.2 ?_
  rw [sub_add_cancel_left]
  exact isInt_neg hn

def IsLattice (t : V3 K) : Prop := IsInt t.x ∧ IsInt t.y ∧ IsInt t.z

/-- the reciprocal-length bound: `d` are the perpendicular spacings (1/|a*|, 1/|b*|, 1/|c*|) of the cell whose
    metric length is `len`; a fractional component times its spacing never exceeds the length of the vector
    (Cauchy–Schwarz with the reciprocal axes). Proved for the model's `vectorLength` in orthogonal cells
    (`recipBound_orthogonal`); for general cells it is a hypothesis of the theorems, not proved here. -/
structure RecipBound (len : V3 K → K) (d : V3 K) : Prop where
  dx : 0 < d.x
  dy : 0 < d.y
  dz : 0 < d.z
  bx : ∀ v, |v.x| * d.x ≤ len v
  by' : ∀ v, |v.y| * d.y ≤ len v
  bz : ∀ v, |v.z| * d.z ≤ len v

theorem comp_short {a dd L : K} (hd : 0 < dd) (h1 : |a| * dd ≤ L) (hL : 2 * L < dd) : |a| < 1 / 2 := by
  by_contra h
  have := mul_le_mul_of_nonneg_right (not_lt.mp h) hd.le
  linarith

/-- a non-zero integer step `n` along one axis makes the vector longer: |a + n| ≥ |n| - |a| > ½ -/
theorem comp_far {a n dd L L' : K} (hd : 0 < dd) (h1 : |a| * dd ≤ L) (hL : 2 * L < dd) (hn : 1 ≤ |n|)
    (h2 : |a + n| * dd ≤ L') : L < L' := by
  have ha := comp_short hd h1 hL
  have hx : 1 / 2 < |a + n| := by linarith [abs_add' n a]
  have := mul_lt_mul_of_pos_right hx hd
  linarith

theorem V3.ext {a b : V3 K} (hx : a.x = b.x) (hy : a.y = b.y) (hz : a.z = b.z) : a = b := by
  cases a; cases b; simp_all

theorem short_is_unique_min {len : V3 K → K} {d : V3 K} (hb : RecipBound len d) (w t : V3 K)
    (ht : IsLattice t) (hne : t.x ≠ 0 ∨ t.y ≠ 0 ∨ t.z ≠ 0)
    (hs : 2 * len w < d.x ∧ 2 * len w < d.y ∧ 2 * len w < d.z) : len w < len (w.add t) := by
  have far {n : K} (hi : IsInt n) (h0 : n ≠ 0) : 1 ≤ |n| := not_lt.mp (mt (isInt_eq_zero_of_abs_lt_one hi) h0)
  rcases hne with h | h | h
  · exact comp_far hb.dx (hb.bx w) hs.1 (far ht.1 h) (hb.bx (w.add t))
  · exact comp_far hb.dy (hb.by' w) hs.2.1 (far ht.2.1 h) (hb.by' (w.add t))
  · exact comp_far hb.dz (hb.bz w) hs.2.2 (far ht.2.2 h) (hb.bz (w.add t))

/-- if some lattice translate `v + t` of the difference vector is shorter than half of every perpendicular
    spacing, the code's component-wise wrapped vector is that translate, and it is strictly shorter than every
    other one (`t'` ranges over all of ℤ³). -/
theorem wrap_is_min_image {fl : K → K} (hf : IsFloor fl) {half : K} (hh : 2 * half = 1)
    {len : V3 K → K} {d : V3 K} (hb : RecipBound len d) (v t : V3 K) (ht : IsLattice t)
    (hs : 2 * len (v.add t) < d.x ∧ 2 * len (v.add t) < d.y ∧ 2 * len (v.add t) < d.z) :
    wrapV fl half v = v.add t ∧
      ∀ t' : V3 K, IsLattice t' → (t'.x ≠ t.x ∨ t'.y ≠ t.y ∨ t'.z ≠ t.z) → len (v.add t) < len (v.add t') := by
  constructor
  · exact V3.ext (wrap_eq_add hf hh ht.1 (comp_short hb.dx (hb.bx (v.add t)) hs.1))
      (wrap_eq_add hf hh ht.2.1 (comp_short hb.dy (hb.by' (v.add t)) hs.2.1))
      (wrap_eq_add hf hh ht.2.2 (comp_short hb.dz (hb.bz (v.add t)) hs.2.2))
  · intro t' ht' hne
    have e : v.add t' = (v.add t).add (t'.sub t) := by
      apply V3.ext <;> simp only [V3.add, V3.sub] <;> ring
    rw [e]
    refine short_is_unique_min hb _ _ ⟨isInt_sub ht'.1 ht.1, isInt_sub ht'.2.1 ht.2.1, isInt_sub ht'.2.2 ht.2.2⟩ ?_ hs
    simpa only [V3.sub, ne_eq, sub_eq_zero] using hne

theorem wrapV_eq_add {fl : K → K} (hf : IsFloor fl) {half : K} (hh : 2 * half = 1) (v : V3 K) :
    ∃ t, IsLattice t ∧ wrapV fl half v = v.add t := by
  have hi (d : K) : IsInt (wrap fl half d - d) := neg_sub d _ ▸ isInt_neg (wrap_component hf hh d).2.2
  exact ⟨(wrapV fl half v).sub v, ⟨hi v.x, hi v.y, hi v.z⟩,
    V3.ext (add_sub_cancel _ _).symm (add_sub_cancel _ _).symm (add_sub_cancel _ _).symm⟩

theorem abs_mul_le_sqrt {sq : K → K} (hs : IsSqrt sq) {x a s : K} (ha : 0 < a) (h : x * a * (x * a) ≤ s) :
    |x| * a ≤ sq s := by
  have hs0 : 0 ≤ s := (mul_self_nonneg _).trans h
  rw [← abs_mul_abs_self, ← hs.sq_mul s hs0] at h
  rw [← abs_of_pos ha, ← abs_mul]
  exact (mul_self_le_mul_self_iff (abs_nonneg _) (hs.nonneg s hs0)).mpr h

theorem quadForm_orthogonal (a b c : K) (v : V3 K) : quadForm (Cell.ofLengths a b c 0 0 0) v =
    v.x * a * (v.x * a) + v.y * b * (v.y * b) + v.z * c * (v.z * c) := by
  simp only [quadForm, Cell.ofLengths]; ring

/-- orthogonal cells (all three cosines 0): the spacings are the cell lengths -/
theorem recipBound_orthogonal {sq : K → K} (hs : IsSqrt sq) {a b c : K} (ha : 0 < a) (hb : 0 < b) (hc : 0 < c) :
    RecipBound (vectorLength sq (Cell.ofLengths a b c 0 0 0)) ⟨a, b, c⟩ where
  dx := ha
  dy := hb
  dz := hc
  bx v := abs_mul_le_sqrt hs ha <| by
    rw [quadForm_orthogonal]; linarith [mul_self_nonneg (v.y * b), mul_self_nonneg (v.z * c)]
  by' v := abs_mul_le_sqrt hs hb <| by
    rw [quadForm_orthogonal]; linarith [mul_self_nonneg (v.x * a), mul_self_nonneg (v.z * c)]
  bz v := abs_mul_le_sqrt hs hc <| by
    rw [quadForm_orthogonal]; linarith [mul_self_nonneg (v.x * a), mul_self_nonneg (v.y * b)]

/-- `SDM.__init__` + `SDM.vector_length` of the working tree, executed on symbolic numbers by the tracing translator
    (extract/trace_c13.py → `ShelxModel/Extracted/C13Src.lean`, regenerated on every run), is the model's `vectorLength`
    on `Cell.ofLengths`, however the code spells or pre-computes the quadratic form (`ring` under the square root). -/
theorem src_vectorLength (sq : K → K) (a b c ca cb cg x y z : K) :
    Src.vectorLength sq a b c ca cb cg x y z = vectorLength sq (Cell.ofLengths a b c ca cb cg) ⟨x, y, z⟩ := by
  unfold Src.vectorLength vectorLength quadForm Cell.ofLengths
  congr 1
  ring

/-- the regenerated code on a test vector, with the identity in place of `sqrt` so that the radicand shows:
    (1, 1, 0) in the cell a = 2, b = 3, cos γ = ½ has a² + b² + 2ab cos γ = 4 + 9 + 6 -/
example : Src.vectorLength (fun q : ℚ => q) 2 3 4 0 0 (1/2) 1 1 0 = 19 := by
  unfold Src.vectorLength; norm_num

/-- the PART/hydrogen condition as the code decides it (a regenerated decision tree of its tests on the PART numbers)
    is the rule of the property's statement. The proof does not depend on the shape of the tree: per combination
    of hydrogen flags either `simp` + `omega` on the whole expression, or every `if` split. -/
theorem bondAllowed_iff_rule (h1 h2 : Bool) (p1 p2 : Int) :
    Extracted.bondAllowed h1 h2 p1 p2 = true ↔ ruleAllowed h1 h2 p1 p2 := by
  unfold Extracted.bondAllowed ruleAllowed
  cases h1 <;> cases h2 <;> first
    | (simp <;> omega)
    | (simp only [] <;> (try split_ifs) <;> (try simp_all) <;> (try omega))

/-- `covalent` of an `SDMItem` is the library's bonding rule applied to the reported distance.
    `hd`: the distance is not below the limit the code uses where no bond is allowed (`0.0`). For a reported distance
    (`selectOp … = some (d, n)`) it follows from `Eligible` (`selectOp_some`), `biased_bounds` and
    `nobond ≤ eps - bias` (`extracted_constants_ok`); that step is not stated as a lemma. -/
theorem covalent_iff_rule (c : Consts K) (r1 r2 d : K) (h1 h2 : Bool) (p1 p2 : Int) (hd : c.nobond ≤ d) :
    covalentOf c (Extracted.bondAllowed h1 h2 p1 p2) r1 r2 d = ruleBonded c.factor r1 r2 d h1 h2 p1 p2 := by
  have hr := bondAllowed_iff_rule h1 h2 p1 p2
  unfold covalentOf ruleBonded
  by_cases ha : Extracted.bondAllowed h1 h2 p1 p2 = true
  · have : ruleAllowed h1 h2 p1 p2 := hr.mp ha
    simp [ha, this, mul_comm]
  · have hn : ¬ ruleAllowed h1 h2 p1 p2 := fun h => ha (hr.mpr h)
    have hlt : ¬ d < c.nobond := not_lt.mpr hd
    simp [ha, hn, hlt]

example : ruleAllowed true false 1 1 ∧ ¬ ruleAllowed true false 0 1 ∧ ruleAllowed false false 0 2 ∧
    ¬ ruleAllowed false false 1 2 := by decide

/-- operator `n` with wrapped length `dk` takes part in the comparison -/
def Eligible (c : Consts K) (n : Nat) (dk : K) : Prop := ¬ dk > c.cut ∧ biased c n dk > c.eps

theorem biased_bounds (c : Consts K) (hb : 0 ≤ c.bias) (n : Nat) (dk : K) :
    dk ≤ biased c n dk ∧ biased c n dk ≤ dk + c.bias := by
  unfold biased
  split
  · exact ⟨le_rfl, le_add_of_nonneg_right hb⟩
  · exact ⟨le_add_of_nonneg_right hb, le_rfl⟩

theorem selStep_cases (c : Consts K) (st : K × Option (K × Nat)) (n : Nat) (dk : K) :
    (selStep c st n dk = st ∧ (Eligible c n dk → st.1 < biased c n dk)) ∨
    (Eligible c n dk ∧ biased c n dk ≤ st.1 ∧ selStep c st n dk = (biased c n dk, some (dk, n))) := by
  unfold selStep Eligible
  by_cases h1 : dk > c.cut
  · exact Or.inl ⟨if_pos h1, fun he => absurd h1 he.1⟩
  · rw [if_neg h1]
    by_cases h2 : biased c n dk > c.eps ∧ st.1 ≥ biased c n dk
    · exact Or.inr ⟨⟨h1, h2.1⟩, h2.2, by rw [if_pos h2, pyMin, if_neg (not_lt.mpr h2.2)]⟩
    · exact Or.inl ⟨if_neg h2, fun he => lt_of_not_ge fun hc => h2 ⟨he.2, hc⟩⟩

/-- the operator loop from any state and start index: the running minimum `.1` only falls and ends at or below every
    eligible biased length; the state comes back untouched or as `(biased c n dk, some (dk, n))` for an eligible entry -/
theorem selLoop_spec (c : Consts K) : ∀ (ds : List K) (st : K × Option (K × Nat)) (n : Nat),
    (selLoop c st n ds).1 ≤ st.1 ∧
    (∀ p ∈ ds.zipIdx n, Eligible c p.2 p.1 → (selLoop c st n ds).1 ≤ biased c p.2 p.1) ∧
    (selLoop c st n ds = st ∨
      ∃ p ∈ ds.zipIdx n, Eligible c p.2 p.1 ∧ selLoop c st n ds = (biased c p.2 p.1, some p)) := by
  intro ds
  induction ds with
  | nil => intro st n; simp [selLoop]
  | cons dk ds ih =>
    intro st n
    obtain ⟨i1, i2, i3⟩ := ih (selStep c st n dk) (n + 1)
    rw [List.zipIdx_cons, selLoop]
    rcases selStep_cases c st n dk with ⟨e, hlt⟩ | ⟨hel, hle, e⟩ <;> rw [e] at i1 i2 i3 ⊢
    · refine ⟨i1, fun p hp => ?_, i3.imp_right fun ⟨p, hp, h⟩ => ⟨p, List.mem_cons_of_mem _ hp, h⟩⟩
      rcases List.mem_cons.mp hp with rfl | hp
      · exact fun he => i1.trans (hlt he).le
      · exact i2 p hp
    · refine ⟨i1.trans hle, fun p hp => ?_, Or.inr ?_⟩
      · rcases List.mem_cons.mp hp with rfl | hp
        · exact fun _ => i1
        · exact i2 p hp
      · rcases i3 with h | ⟨p, hp, h⟩
        · exact ⟨(dk, n), List.mem_cons_self, hel, h⟩
        · exact ⟨p, List.mem_cons_of_mem _ hp, h⟩

theorem selectOp_some (c : Consts K) (ds : List K) (d : K) (n : Nat) (h : selectOp c ds = some (d, n)) :
    ds[n]? = some d ∧ Eligible c n d ∧
      ∀ i di, ds[i]? = some di → Eligible c i di → biased c n d ≤ biased c i di := by
  obtain ⟨_, s2, s3⟩ := selLoop_spec c ds (c.big, none) 0
  unfold selectOp at h
  rcases s3 with e | ⟨p, hp, he, e⟩ <;> rw [e] at h
  · cases h
  · rw [e] at s2
    obtain rfl : p = (d, n) := Option.some.inj h
    exact ⟨List.mem_zipIdx_iff_getElem?.mp hp, he,
      fun i di hi hel => s2 (di, i) (List.mem_zipIdx_iff_getElem?.mpr hi) hel⟩

/-- `hbig`: the start value 1000000 of the running minimum exceeds every handicapped length that passed the cut. -/
theorem selectOp_none (c : Consts K) (ds : List K) (hb : 0 ≤ c.bias) (hbig : c.cut + c.bias < c.big)
    (h : selectOp c ds = none) : ∀ i di, ds[i]? = some di → ¬ Eligible c i di := by
  intro i di hi he
  obtain ⟨_, s2, s3⟩ := selLoop_spec c ds (c.big, none) 0
  unfold selectOp at h
  rcases s3 with e | ⟨p, _, _, e⟩
  · have h2 : c.big ≤ biased c i di := by
      have := s2 (di, i) (List.mem_zipIdx_iff_getElem?.mpr hi) he
      rwa [e] at this
    linarith [(biased_bounds c hb i di).2, not_lt.mp he.1]
  · rw [e] at h; cases h

/-- `hsep` is the separation the identity handicap forces: the identity's contact is not within `bias` (0.0001 Å)
    above a strictly shorter contact of another operator (there the code deliberately reports the identity). -/
theorem selectOp_min (c : Consts K) (ds : List K) (d : K) (n : Nat) (h : selectOp c ds = some (d, n))
    (hb : 0 ≤ c.bias)
    (hsep : ∀ i di d0, i ≠ 0 → ds[i]? = some di → ds[0]? = some d0 → di < d0 → di + c.bias < d0) :
    ∀ i di, ds[i]? = some di → Eligible c i di → d ≤ di := by
  obtain ⟨hn, _, hmin⟩ := selectOp_some c ds d n h
  intro i di hi he
  have hle := hmin i di hi he
  unfold biased at hle
  by_cases n0 : n = 0 <;> by_cases i0 : i = 0 <;> simp only [n0, i0, if_true, if_false] at hle
  · exact hle
  · by_contra hc
    push Not at hc
    have := hsep i di d i0 hi (by rw [← n0]; exact hn) hc
    linarith
  · linarith
  · linarith

/-- For one ordered pair of atoms `x1`, `x2` and the operator list `ops` the library holds:
    if the model's operator loop returns `(d, n)` and `d` is below half of every perpendicular spacing, then
    (i) operator `n` realises `d` with some lattice translation `t ∈ ℤ³`, and
    (ii) `d` is the minimum of `‖R x1 + τ + t − x2‖` over all operators of the list and all `t ∈ ℤ³`,
         among the images farther than `eps` (0.01 Å: closer images count as the atom itself).
    Hypotheses: exact `floor`; the reciprocal-length bound of the cell (`RecipBound`, proved for orthogonal cells and
    exact `sqrt`); `hsep` as in `selectOp_min`. The 5.3 Å cut needs no hypothesis: an item exists, so `d ≤ cut`. -/
theorem sdm_reports_min {fl sq : K → K} (hf : IsFloor fl) (c : Consts K) (hh : 2 * c.half = 1) (hb : 0 ≤ c.bias)
    (cell : Cell K) {dsp : V3 K} (hr : RecipBound (vectorLength sq cell) dsp)
    (ops : List (Op K)) (x1 x2 : V3 K) (d : K) (n : Nat)
    (h : selectOp c (opLengths fl sq c cell ops x1 x2) = some (d, n))
    (hdom : 2 * d < dsp.x ∧ 2 * d < dsp.y ∧ 2 * d < dsp.z)
    (hsep : ∀ i di d0, i ≠ 0 → (opLengths fl sq c cell ops x1 x2)[i]? = some di →
        (opLengths fl sq c cell ops x1 x2)[0]? = some d0 → di < d0 → di + c.bias < d0) :
    (∃ o t, ops[n]? = some o ∧ IsLattice t ∧ d = vectorLength sq cell (((applyOp o x1).sub x2).add t)) ∧
    (∀ (i : Nat) (o : Op K) (t : V3 K), ops[i]? = some o → IsLattice t →
        c.eps < vectorLength sq cell (((applyOp o x1).sub x2).add t) →
        d ≤ vectorLength sq cell (((applyOp o x1).sub x2).add t)) := by
  obtain ⟨hn, hel, _⟩ := selectOp_some c _ d n h
  have hmin := selectOp_min c _ d n h hb hsep
  constructor
  · rw [opLengths, List.getElem?_map, Option.map_eq_some_iff] at hn
    obtain ⟨o, ho, rfl⟩ := hn
    obtain ⟨t, ht, e⟩ := wrapV_eq_add hf hh ((applyOp o x1).sub x2)
    exact ⟨o, t, ho, ht, by rw [← e]; rfl⟩
  · intro i o t ho ht hfar
    set v := (applyOp o x1).sub x2 with hv
    set L := vectorLength sq cell (v.add t)
    -- a translate shorter than `d` is short enough to be the wrapped vector: `L` is the entry of operator `i`
    by_contra hlt
    have hL : L < d := not_le.mp hlt
    have hw := (wrap_is_min_image hf hh hr v t ht
      ⟨by linarith [hdom.1], by linarith [hdom.2.1], by linarith [hdom.2.2]⟩).1
    have hi : (opLengths fl sq c cell ops x1 x2)[i]? = some L := by
      rw [opLengths, List.getElem?_map, ho, Option.map_some, wrappedDiff, ← hv, hw]
    exact hlt (hmin i L hi ⟨fun hcut => hel.1 (hcut.trans hL), hfar.trans_le (biased_bounds c hb i L).1⟩)

/-- what is proved of `calc_molindex` (no symmetry of the item list is assumed): every non-hydrogen atom gets a
    number (> 0), and among the numbered atoms the numbers are the connected components of the bond graph.
    Not claimed (open finding, `molindex_fails_on_lone_hydrogens`): atoms of hydrogen-only components keep -1.
    The fuel is sufficient by `calcMolindex_fuel_sufficient`. -/
theorem molindex_components (hyd : Nat → Bool) (n : Nat) (items : List Bond) (m : Nat → Int) (mx : Int)
    (h : calcMolindex hyd n items = some (m, mx)) :
    (∀ i, i < n → hyd i = false → 0 < m i) ∧
    (∀ b ∈ items, b.covalent = true → (0 < m b.a1 ∨ 0 < m b.a2) → 0 < m b.a1 ∧ m b.a1 = m b.a2) ∧
    (∀ i j, 0 < m i → (m i = m j ↔ Conn items i j)) := by
  unfold calcMolindex at h
  split at h
  · cases h
  obtain ⟨hinv, hcl, hfu⟩ := molOuter_spec hyd n (n + 1) (n + 1) 1 _ (m, mx) (inv_init items) h
  dsimp only at hinv hcl hfu
  refine ⟨fun i hi hh => ?_, fun b hb hcov hor => ?_, fun i j hpos => ⟨hinv.conn i j hpos, fun hc => ?_⟩⟩
  · have := firstUnassigned_none hfu hi hh
    have := hinv.range i
    omega
  · have := inv_label_of_conn hinv hcl (Conn.bond b hb hcov)
    omega
  · have := inv_label_of_conn hinv hcl hc
    omega

/-- `n + 1` sweeps per molecule and `n + 1` molecules are enough: the model's `none` (fuel exhausted) never occurs,
    i.e. the Python `while` loops terminate.
    `hn`: on an empty atom list the code raises IndexError, which the model also renders as `none`. -/
theorem calcMolindex_fuel_sufficient (hyd : Nat → Bool) (n : Nat) (items : List Bond) (hn : 0 < n)
    (hb : ∀ b ∈ items, b.a1 < n ∧ b.a2 < n) : (calcMolindex hyd n items).isSome = true := by
  unfold calcMolindex
  rw [if_neg (by omega)]
  exact molOuter_fuel hyd n hb (n + 1) 1 _ (by omega) (by have := negCount_le n (upd (fun _ => -1) 0 1); omega)

/-- the constants of sdm.py as exact rationals -/
def constsQ : Consts ℚ :=
  { cut := Extracted.cutQ, bias := Extracted.biasQ, eps := Extracted.epsQ, factor := Extracted.factorQ,
    half := Extracted.halfQ, big := Extracted.bigQ, nobond := Extracted.nobondQ }

/-- `hh`, `hb`, `hbig` of the theorems and `hd` of `covalent_iff_rule` (every reported distance exceeds
    `eps - bias ≥ nobond`) hold for the literals in the source, and the bond factor is the 1.2 of the statement;
    re-checked whenever sdm.py changes -/
theorem extracted_constants_ok :
    2 * constsQ.half = 1 ∧ 0 ≤ constsQ.bias ∧ constsQ.cut + constsQ.bias < constsQ.big ∧
    constsQ.nobond ≤ constsQ.eps - constsQ.bias ∧ constsQ.factor = statementFactor := by
  simp only [statementFactor, constsQ, Extracted.cutQ, Extracted.biasQ, Extracted.epsQ, Extracted.factorQ, Extracted.halfQ,
    Extracted.bigQ, Extracted.nobondQ]
  norm_num

/-- every covalent radius of `element2cov` is positive, so every bond limit `(r1 + r2) * 1.2` lies above the `0.0` used
    where no bond is allowed. This and `hydrogen_radii_agree` are facts about the regenerated table only: the theorems
    above take radii and hydrogen flags as independent variables and have no hypothesis that these would discharge. -/
theorem radii_positive : ∀ e ∈ Extracted.covRadius, (0 : ℚ) < e.2 := by decide +kernel

/-- every element the library treats as hydrogen that has a radius at all has the hydrogen radius
    (`D` as `H`; `T` has none) -/
theorem hydrogen_radii_agree : ∀ e ∈ Extracted.covRadius, e.1 ∈ Extracted.hydrogenElements →
    some e.2 = (Extracted.covRadius.find? (·.1 = "H")).map (·.2) := by decide +kernel

/-- lengths 3 (identity), 2, 5/2: operator 1 is reported with its real length, and `hsep` of `selectOp_min` holds
    for this list -/
example : selectOp constsQ [3, 2, 5/2] = some (2, 1) := by decide +kernel

example : ∀ i di d0, i ≠ 0 → ([3, 2, 5/2] : List ℚ)[i]? = some di → ([3, 2, 5/2] : List ℚ)[0]? = some d0 →
    di < d0 → di + constsQ.bias < d0 := by
  intro i di d0 _ hi h0 hlt
  obtain rfl : 3 = d0 := Option.some.inj h0
  have hm := List.mem_of_getElem? hi
  simp only [List.mem_cons, List.not_mem_nil, or_false] at hm
  rcases hm with rfl | rfl | rfl
  · exact absurd hlt (lt_irrefl _)
  · norm_num [constsQ, Extracted.biasQ]
  · norm_num [constsQ, Extracted.biasQ]

/-- the identity keeps a tie -/
example : selectOp constsQ [2, 2] = some (2, 0) := by decide +kernel

/-! ### open findings (known_findings.jsonl) -/

/-- full strength: every pair with an image that is not the atom itself gets an item
    (C13|no-item|distance-beyond-cut). The proved partial form is `selectOp_none` (no item only if no operator
    is `Eligible`, i.e. within the 5.3 Å cut). -/
def ItemForEveryContactStatement (c : Consts ℚ) : Prop :=
  ∀ ds : List ℚ, (∃ i di, ds[i]? = some di ∧ biased c i di > c.eps) → (selectOp c ds).isSome = true

theorem item_for_every_contact_fails_on : ¬ ItemForEveryContactStatement constsQ := by
  intro h
  have := h [6] ⟨0, 6, rfl, by decide +kernel⟩
  revert this
  decide +kernel

theorem conn_nil {i j : Nat} (h : Conn [] i j) : i = j := by
  induction h with
  | refl => rfl
  | bond b hb _ => exact absurd hb List.not_mem_nil
  | symm _ ih => exact ih.symm
  | trans _ _ ih1 ih2 => exact ih1.trans ih2

/-- full strength: the molecule numbers are the partition into connected components
    (C13|molindex|hydrogen-only-components-unnumbered). The proved partial form is `molindex_components`
    (restricted to numbered atoms, and all non-hydrogen atoms are numbered). -/
def MolindexPartitionStatement : Prop :=
  ∀ (hyd : Nat → Bool) (n : Nat) (items : List Bond) (m : Nat → Int) (mx : Int),
    calcMolindex hyd n items = some (m, mx) → ∀ i j, i < n → j < n → (m i = m j ↔ Conn items i j)

/-- witness: C, H, H without any bond — both hydrogens keep -1 although they are different components -/
theorem molindex_fails_on_lone_hydrogens : ¬ MolindexPartitionStatement := by
  intro h
  have hc : ∃ r, calcMolindex (fun i => decide (i ≠ 0)) 3 [] = some r ∧ r.1 1 = -1 ∧ r.1 2 = -1 := by
    refine ⟨_, rfl, ?_, ?_⟩ <;> decide
  obtain ⟨⟨m, mx⟩, e, h1, h2⟩ := hc
  have := (h _ 3 [] m mx e 1 2 (by omega) (by omega)).mp (by simp only at h1 h2; rw [h1, h2])
  have := conn_nil this
  omega

end Shelx.C13
