/-
  C07 — property theorems (model: ShelxModel/C07.lean; the parser line by line: Lemmas/C07Parse.lean), for all files
  (lists of physical lines with arbitrary flags and classes), all printers with the stated facts, all include-file
  systems, any number of read/write cycles.

  What is said of a written file that is read again rests on one simulation, `parseAux_written`: for every item of
  the first parse the second has the items `reread` says. Each theorem then evaluates its output (lines written,
  table entries, keys of the logical lines) on `reread`, one `Step` at a time. The include theorems rest on
  `flatMap_splice`: an output to which spliced lines other than SFAC/FVAR lines contribute nothing does not see the
  include files.
-/
import ShelxProps.Lemmas.C07Parse
import Mathlib.Data.Rat.Floor
import Mathlib.Tactic.NormNum.Basic

namespace Shelx.C07

variable {α : Type}

/-- the physical lines of one logical line: every line but the last is continued (`cont`), the last is not -/
def contChain : List (PLine α) → Bool
  | [] => false
  | [l] => !l.cont
  | l :: l' :: r => l.cont && contChain (l' :: r)

/-- `h :: cs` is one printed logical line: it starts in column one, is continued exactly over `cs`, and is
    an ordinary line of the written file -/
def Group (h : PLine α) (cs : List (PLine α)) : Prop :=
  h.skip = false ∧ contChain (h :: cs) = true ∧ ∀ l ∈ h :: cs, l.spliced = false

def groupVals : List (PLine α) → List α
  | [] => []
  | h :: _ => h.vals

/-- the printers keep a line's class and key (keyword, first token) and print well-formed logical lines: facts
    about `cards.py`/`Atom.__str__`/`wrap_line` that the harness checks on every written file -/
structure PrinterOk (P : Printer α) (kw : Tab → α) : Prop where
  card : ∀ l : PLine α, l.cls = .obj ∨ l.cls = .atom →
    ∃ h cs, P.card l = h :: cs ∧ Group h cs ∧ h.cls = l.cls ∧ h.key = l.key
  table_ne : ∀ t vs, P.table t vs ≠ []
  table : ∀ t vs, ∀ g ∈ P.table t vs, ∃ h cs, g = h :: cs ∧ Group h cs ∧ h.cls = .tab t ∧ h.key.1 = kw t

/-- per-class idempotence: printing what was read back from a printed line prints the same line -/
structure Stable (P : Printer α) (kw : Tab → α) : Prop extends PrinterOk P kw where
  card_idem : ∀ l h cs, (l.cls = .obj ∨ l.cls = .atom) → P.card l = h :: cs → P.card h = h :: cs
  table_vals : ∀ t vs, (P.table t vs).flatMap groupVals = vs

/-- the SFAC (FVAR) keyword is used by exactly the lines that feed the table. Excludes a bare `SFAC`/`FVAR` line
    without values: no table entry, the code keeps it in place as text, so it is not coalesced although the
    specification's lexer sees the keyword. -/
def KeyOk [DecidableEq α] (kw : Tab → α) (l : PLine α) : Prop := ∀ t, l.cls = .tab t ↔ l.key.1 = kw t

namespace PrinterOk

theorem table_cons {P : Printer α} {kw : Tab → α} (hP : PrinterOk P kw) (t : Tab) (vs : List α) :
    ∃ h cs gs, P.table t vs = (h :: cs) :: gs ∧ Group h cs ∧ h.cls = .tab t ∧ h.key.1 = kw t ∧
      ∀ g ∈ gs, ∃ h cs, g = h :: cs ∧ Group h cs ∧ h.cls = .tab t ∧ h.key.1 = kw t := by
  have hgs := hP.table t vs
  cases egs : P.table t vs with
  | nil => exact absurd egs (hP.table_ne t vs)
  | cons g gs =>
    rw [egs] at hgs
    obtain ⟨h, cs, rfl, hg, hc, hk⟩ := hgs _ (List.mem_cons_self ..)
    exact ⟨h, cs, gs, rfl, hg, hc, hk, fun g hm => hgs g (List.mem_cons_of_mem _ hm)⟩

end PrinterOk

/-- the items read from one printed logical line, `mk` for its first line -/
def groupItems (mk : PLine α → Item α) : List (PLine α) → List (Item α)
  | [] => []
  | h :: cs => mk h :: cs.map .blanked

/-- what is read back from `emit P tv it`: the items the parse of the written file has in place of the item `it`
    of the first parse (`Step.written`) -/
def reread (P : Printer α) (tv : Tab → List α) : Item α → List (Item α)
  | .str l => if l.empty then [] else [.str l]
  | .contKept l => [.contKept l]
  | .card l => groupItems .card (P.card l)
  | .table t _ =>
    match P.table t (tv t) with
    | [] => []
    | g :: gs => groupItems (.table t) g ++ gs.flatMap (groupItems (.absorbed t))
  | _ => []

/-- the mode in which the written text is read where the input was read in mode `m`: the continuation lines of an
    object are not written -/
def outMode : Mode → Mode
  | .rawCont => .rawCont
  | _ => .top

def outState (s : St) : St := { s with mode := outMode s.mode }

@[simp] theorem outMode_top : outMode .top = .top := rfl
@[simp] theorem outMode_objCont : outMode .objCont = .top := rfl
@[simp] theorem outMode_rawCont : outMode .rawCont = .rawCont := rfl

@[simp] theorem outMode_contMode (l : PLine α) (m : Mode) : outMode (contMode l m) = contMode l (outMode m) := by
  cases h : l.cont <;> simp [contMode, h]

theorem outState_self {s : St} (hm : outMode s.mode = s.mode) : outState s = s := withMode_self hm.symm

theorem parseAux_chain {h : PLine α} {cs : List (PLine α)} (hc : contChain (h :: cs) = true) {s : St}
    (hm : s.mode = contMode h .objCont) (X : List (PLine α)) :
    parseAux s (cs ++ X) = cs.map .blanked ++ parseAux { s with mode := .top } X := by
  induction cs generalizing h s with
  | nil =>
    have hn : h.cont = false := by simpa [contChain] using hc
    rw [contMode_not_cont hn] at hm
    simp [withMode_self hm]
  | cons c cs ih =>
    obtain ⟨h1, h2⟩ : h.cont = true ∧ contChain (c :: cs) = true := by simpa [contChain] using hc
    rw [contMode_cont h1] at hm
    simp only [List.cons_append, parseAux, (Step.objCont hm).eq, List.map_cons]
    exact congrArg _ (ih h2 rfl)

theorem parseAux_group {h : PLine α} {cs : List (PLine α)} (hg : Group h cs) {s s' : St} {it : Item α}
    (hs : Step s h (it, { s' with mode := contMode h .objCont })) (X : List (PLine α)) :
    parseAux s (h :: cs ++ X) = it :: cs.map .blanked ++ parseAux { s' with mode := .top } X := by
  simp only [List.cons_append, parseAux, hs.eq]
  exact congrArg _ (parseAux_chain hg.2.1 rfl X)

theorem parseAux_later_groups {t : Tab} {s : St} (hm : s.mode = .top) (ht : s.seen t = true)
    {kw : Tab → α} (gs : List (List (PLine α)))
    (hg : ∀ g ∈ gs, ∃ h cs, g = h :: cs ∧ Group h cs ∧ h.cls = .tab t ∧ h.key.1 = kw t) (X : List (PLine α)) :
    parseAux s (gs.flatten ++ X) = gs.flatMap (groupItems (.absorbed t)) ++ parseAux s X := by
  induction gs with
  | nil => rfl
  | cons g gs ih =>
    obtain ⟨h, cs, rfl, hgr, hc, _⟩ := hg g (List.mem_cons_self ..)
    rw [List.flatten_cons, List.append_assoc, parseAux_group hgr (.later t hm hgr.1 hc ht), withMode_self hm,
      ih fun g hm => hg g (List.mem_cons_of_mem _ hm)]
    simp [groupItems]

section written
variable {P : Printer α} {kw : Tab → α}

namespace Step

theorem written {s : St} {l : PLine α} {r : Item α × St} (hP : PrinterOk P kw) (tv : Tab → List α)
    (h : Step s l r) (hl : l.spliced = false) (X : List (PLine α)) :
    parseAux (outState s) (emit P tv r.1 ++ X) = reread P tv r.1 ++ parseAux (outState r.2) X := by
  have hr := h.eq
  cases h with
  | objCont hm => simp [emit, reread, outState, hm]
  | later t hm => simp [emit, reread, outState, hm]
  | rawCont hm =>
    rw [outState_self (by simp [hm])]
    simp [emit, reread, hl, parseAux, hr, outState]
  | skip hm hs =>
    rw [outState_self (by simp [hm])]
    cases he : l.empty <;> simp [emit, reread, hl, he, parseAux, hr]
  | raw hm hs hc =>
    rw [outState_self (by simp [hm])]
    simp [emit, reread, hl, empty_of_not_skip hs, parseAux, hr, outState]
  | card hm hs hc =>
    obtain ⟨h, cs, e, hg, hcls, _⟩ := hP.card l hc
    rw [outState_self (by simp [hm])]
    simp only [emit, hl, reread, e, groupItems, Bool.false_eq_true, if_false]
    rw [parseAux_group hg (.card hm hg.1 (hcls ▸ hc))]
    simp [outState]
  | first t hm hs hc ht =>
    obtain ⟨h, cs, gs, egs, hg, hcls, _, hgs⟩ := hP.table_cons t (tv t)
    rw [outState_self (by simp [hm])]
    simp only [emit, hl, reread, egs, Bool.false_eq_true, if_false]
    rw [List.flatten_cons, List.append_assoc, parseAux_group hg (.first t hm hg.1 hcls ht),
      parseAux_later_groups rfl (by simp [seen_mark]) gs hgs]
    simp [groupItems, outState]

end Step

theorem parseAux_written (hP : PrinterOk P kw) (tv : Tab → List α) (f : List (PLine α))
    (hsp : ∀ l ∈ f, l.spliced = false) (s : St) :
    parseAux (outState s) ((parseAux s f).flatMap (emit P tv)) = (parseAux s f).flatMap (reread P tv) := by
  induction f generalizing s with
  | nil => rfl
  | cons l f ih =>
    simp only [parseAux, List.flatMap_cons]
    rw [(step_spec s l).written hP tv (hsp l (List.mem_cons_self ..)),
      ih (fun x hx => hsp x (List.mem_cons_of_mem _ hx))]

theorem parse_written (hP : PrinterOk P kw) (tv : Tab → List α) (f : List (PLine α))
    (hsp : ∀ l ∈ f, l.spliced = false) :
    parse ((parse f).flatMap (emit P tv)) = (parse f).flatMap (reread P tv) :=
  parseAux_written hP tv f hsp {}

end written

section groupItems
variable {β : Type} {φ : Item α → List β} (hφ : ∀ l, φ (.blanked l) = []) (mk : PLine α → Item α)
include hφ

theorem flatMap_groupItems (h : PLine α) (cs : List (PLine α)) : (groupItems mk (h :: cs)).flatMap φ = φ (mk h) := by
  simp [groupItems, List.flatMap_map, hφ]

theorem flatMap_groupItems_groups {ψ : List (PLine α) → List β} (hnil : ψ [] = [])
    (hmk : ∀ h cs, φ (mk h) = ψ (h :: cs)) (gs : List (List (PLine α))) :
    (gs.flatMap (groupItems mk)).flatMap φ = gs.flatMap ψ := by
  rw [List.flatMap_assoc]
  congr 1
  funext g
  cases g with
  | nil => exact hnil.symm
  | cons h cs => rw [flatMap_groupItems hφ, hmk]

theorem flatMap_groupItems_nil (hmk : ∀ h, φ (mk h) = []) (gs : List (List (PLine α))) :
    (gs.flatMap (groupItems mk)).flatMap φ = [] := by
  rw [flatMap_groupItems_groups hφ mk (ψ := fun _ => []) rfl fun h _ => hmk h]
  exact List.flatMap_eq_nil_iff.2 fun _ _ => rfl

end groupItems

section reread
variable {β : Type} {P : Printer α} {tv : Tab → List α} {φ : Item α → List β} (hφ : ∀ l, φ (.blanked l) = [])

theorem flatMap_reread_str (he : ∀ l : PLine α, l.empty = true → φ (.str l) = []) (l : PLine α) :
    (reread P tv (.str l)).flatMap φ = φ (.str l) := by
  rw [reread]
  split
  · exact (he l ‹_›).symm
  · exact List.append_nil _

include hφ

theorem flatMap_reread_card {l h : PLine α} {cs : List (PLine α)} (e : P.card l = h :: cs) :
    (reread P tv (.card l)).flatMap φ = φ (.card h) := by
  rw [reread, e, flatMap_groupItems hφ]

theorem flatMap_reread_table {t : Tab} {h : PLine α} {cs : List (PLine α)} {gs : List (List (PLine α))}
    (e : P.table t (tv t) = (h :: cs) :: gs) (l : PLine α) :
    (reread P tv (.table t l)).flatMap φ = φ (.table t h) ++ (gs.flatMap (groupItems (.absorbed t))).flatMap φ := by
  simp only [reread, e]
  rw [List.flatMap_append, flatMap_groupItems hφ]

end reread

section
variable {P : Printer α} {kw : Tab → α} {s : St} {l : PLine α} {r : Item α × St}

namespace Step

theorem reread_emit (hP : Stable P kw) (tv : Tab → List α) (h : Step s l r) (hl : l.spliced = false) :
    (reread P tv r.1).flatMap (emit P tv) = emit P tv r.1 := by
  have hb : ∀ l, emit P tv (.blanked l) = [] := fun _ => rfl
  cases h with
  | card hm hs hc =>
    obtain ⟨h, cs, e, hg, _, _⟩ := hP.card l hc
    rw [flatMap_reread_card hb e]
    simp [emit, hl, hg.2.2 h, hP.card_idem l h cs hc e, e]
  | first t hm hs hc ht =>
    obtain ⟨h, cs, gs, egs, hg, _⟩ := hP.table_cons t (tv t)
    rw [flatMap_reread_table hb egs, flatMap_groupItems_nil hb _ fun _ => rfl]
    simp [emit, hl, hg.2.2 h]
  | skip | raw => exact flatMap_reread_str (fun l he => by simp [emit, he]) l
  | rawCont => exact List.append_nil _
  | _ => rfl

end Step

theorem reread_vals (hP : Stable P kw) (tv : Tab → List α) (t0 : Tab) (it : Item α) :
    (reread P tv it).flatMap (itemVals t0) = atTable t0 (tv t0) it := by
  have hb : ∀ l : PLine α, itemVals t0 (.blanked l) = [] := fun _ => rfl
  cases it with
  | str l => exact flatMap_reread_str (fun _ _ => rfl) l
  | card l =>
    cases e : P.card l with
    | nil => rw [reread, e]; rfl
    | cons h cs => exact flatMap_reread_card hb e
  | table t l =>
    obtain ⟨h, cs, gs, egs, _⟩ := hP.table_cons t (tv t)
    have hv := hP.table_vals t (tv t)
    rw [egs, List.flatMap_cons] at hv
    rw [flatMap_reread_table hb egs, atTable]
    by_cases e : t = t0
    · subst e
      rw [flatMap_groupItems_groups hb (.absorbed t) (ψ := groupVals) rfl fun _ _ => if_pos rfl, if_pos rfl]
      exact (congrArg (· ++ _) (if_pos rfl)).trans hv
    · rw [flatMap_groupItems_nil hb (.absorbed t) fun _ => if_neg e, if_neg e]
      exact congrArg (· ++ _) (if_neg e)
  | _ => rfl

end

/-- the entries of the SFAC (FVAR) lines of the written file, in file order, are those of the SFAC (FVAR) lines of
    the input, in input order: coalescing neither loses, duplicates nor reorders an entry (so every element keeps its
    scattering-factor number). -/
theorem table_order_preserved (P : Printer α) (kw : Tab → α) (hP : Stable P kw) (f : List (PLine α))
    (hsp : ∀ l ∈ f, l.spliced = false) (t : Tab) :
    tableVals t (parse (cycle P f)) = tableVals t (parse f) := by
  rw [cycle, write, parse_written hP.toPrinterOk _ f hsp, tableVals, List.flatMap_assoc]
  simp only [reread_vals hP, parse]
  rcases atTable_unseen t (tableVals t (parseAux {} f)) f (s := {}) (by cases t <;> rfl) with h | ⟨h, h'⟩
  · exact h
  · rw [h]; exact h'.symm

/-- reading a written file and writing it again reproduces it, line for line.
    `hsp`: no line of `f` comes from an include file, as in a file on disk; for a file read with its include files
    spliced in see `include_no_accumulation`. -/
theorem write_fixpoint (P : Printer α) (kw : Tab → α) (hP : Stable P kw) (f : List (PLine α))
    (hsp : ∀ l ∈ f, l.spliced = false) : cycle P (cycle P f) = cycle P f := by
  have e : (fun t => tableVals t (parse (cycle P f))) = fun t => tableVals t (parse f) :=
    funext (table_order_preserved P kw hP f hsp)
  rw [cycle, write, e, cycle, write, parse_written hP.toPrinterOk _ f hsp, List.flatMap_assoc]
  exact flatMap_parseAux_congr (fun l hl s r h => h.reread_emit hP _ (hsp l hl)) {}

/-! The keys of the logical lines of a file are those of the items of its parse that start a logical line
(`keySeq_eq_parse`); for the written file these are, item by item of the first parse, the keys of `reread`. They
differ from the input's only at SFAC/FVAR lines, where coalescing makes up for the difference. -/

section order
variable [DecidableEq α] {kw : Tab → α}

theorem coalesceFrom_congr {b b' : List α} (h : ∀ a, a ∈ b ↔ a ∈ b') (ks : List (α × Option α)) :
    coalesceFrom kw b ks = coalesceFrom kw b' ks := by
  induction ks generalizing b b' with
  | nil => rfl
  | cons k ks ih =>
    simp only [coalesceFrom, h k.1, ih (b := k.1 :: b) (b' := k.1 :: b') fun a => by simp only [List.mem_cons, h a]]

theorem coalesceFrom_append_congr {X Y : List (α × Option α)} (ks : List (α × Option α)) (b : List α)
    (h : ∀ b', (∀ a ∈ b, a ∈ b') → coalesceFrom kw b' Y = coalesceFrom kw b' X) :
    coalesceFrom kw b (ks ++ Y) = coalesceFrom kw b (ks ++ X) := by
  induction ks generalizing b with
  | nil => exact h b fun _ => id
  | cons k ks ih =>
    simp only [List.cons_append, coalesceFrom,
      ih (k.1 :: b) fun b' hb => h b' fun a ha => hb a (List.mem_cons_of_mem _ ha)]

omit [DecidableEq α] in
theorem isTabKey {a : α} : ∀ {t : Tab}, a = kw t → a = kw .sfac ∨ a = kw .fvar
  | .sfac, h => .inl h
  | .fvar, h => .inr h

theorem coalesceFrom_append_tab {t : Tab} {b : List α} (hb : kw t ∈ b) (ks' ks : List (α × Option α))
    (hk : ∀ k ∈ ks', k.1 = kw t) : coalesceFrom kw b (ks' ++ ks) = coalesceFrom kw b ks := by
  induction ks' with
  | nil => rfl
  | cons k ks' ih =>
    have e := hk k (List.mem_cons_self ..)
    rw [List.cons_append, coalesceFrom, if_pos ⟨isTabKey e, e ▸ hb⟩,
      coalesceFrom_congr (b' := b) fun a => List.mem_cons.trans (or_iff_right_of_imp (· ▸ e ▸ hb)),
      ih fun k hm => hk k (List.mem_cons_of_mem _ hm)]

theorem keyOf_fst (l : PLine α) : (keyOf kw l).1 = l.key.1 := by
  unfold keyOf; split <;> rfl

theorem keyOf_tab {l : PLine α} {t : Tab} (h : l.key.1 = kw t) : keyOf kw l = (kw t, none) := by
  rw [keyOf, if_pos (isTabKey h), h]

def headKeys (kw : Tab → α) (its : List (Item α)) : List (α × Option α) := (its.flatMap Item.heads).map (keyOf kw)

theorem headKeys_append (a b : List (Item α)) : headKeys kw (a ++ b) = headKeys kw a ++ headKeys kw b := by
  simp [headKeys]

theorem keySeq_eq_parse (f : List (PLine α)) : keySeq kw f = headKeys kw (parse f) :=
  congrArg _ (logicalHeads_eq_parse {} f)

namespace Item

def tab : Item α → Option Tab
  | .table t _ | .absorbed t _ => some t
  | _ => none

end Item

variable {P : Printer α} {s : St} {l : PLine α} {r : Item α × St}

namespace Step

theorem reread_keys (hP : PrinterOk P kw) (tv : Tab → List α) (h : Step s l r) (hn : r.1.tab = none) :
    headKeys kw (reread P tv r.1) = headKeys kw [r.1] := by
  have hb : ∀ l : PLine α, Item.heads (.blanked l) = [] := fun _ => rfl
  cases h with
  | card hm hs hc =>
    obtain ⟨h, cs, e, _, _, hkey⟩ := hP.card l hc
    rw [headKeys, flatMap_reread_card hb e]
    show [keyOf kw h] = [keyOf kw l]
    rw [keyOf, keyOf, hkey]
  | skip | raw =>
    exact congrArg (List.map _) ((flatMap_reread_str (fun l he => by simp [Item.heads, PLine.skip, he]) l).trans
      (List.append_nil _).symm)
  | first | later => exact nomatch hn
  | _ => rfl

end Step

theorem headKeys_reread_table (hP : PrinterOk P kw) (tv : Tab → List α) (t : Tab) (l : PLine α) :
    ∃ K, headKeys kw (reread P tv (.table t l)) = (kw t, none) :: K ∧ ∀ k ∈ K, k.1 = kw t := by
  have hb : ∀ l : PLine α, Item.heads (.blanked l) = [] := fun _ => rfl
  obtain ⟨h, cs, gs, egs, _, _, hkey, hgs⟩ := hP.table_cons t (tv t)
  refine ⟨headKeys kw (gs.flatMap (groupItems (.absorbed t))), ?_, ?_⟩
  · rw [headKeys, flatMap_reread_table hb egs, List.map_append]
    exact congrArg (· :: _) (keyOf_tab hkey)
  · rw [headKeys, flatMap_groupItems_groups hb _ (ψ := List.take 1) rfl fun _ _ => rfl]
    intro k hk
    obtain ⟨x, hx, rfl⟩ := List.mem_map.1 hk
    obtain ⟨g, hg, hx⟩ := List.mem_flatMap.1 hx
    obtain ⟨h', cs', rfl, _, _, hkey'⟩ := hgs g hg
    rw [keyOf_fst, List.mem_singleton.1 hx, hkey']

/-- `order_of_tables` from any state; `hs`: the keys before, `b`, hold the keyword of every table met so far -/
theorem coalesceFrom_written (hP : PrinterOk P kw) (tv : Tab → List α) (f : List (PLine α)) (s : St) (b : List α)
    (hs : ∀ t, s.seen t = true → kw t ∈ b)
    (hk : ∀ l ∈ logicalHeads s.mode.isCont f, ∀ t, l.cls = .tab t → l.key.1 = kw t) :
    coalesceFrom kw b (headKeys kw ((parseAux s f).flatMap (reread P tv)))
      = coalesceFrom kw b (headKeys kw (parseAux s f)) := by
  induction f generalizing s b with
  | nil => rfl
  | cons l f ih =>
    have h := step_spec s l
    rw [h.heads] at hk
    rw [parseAux, List.flatMap_cons, headKeys_append, ← List.singleton_append, headKeys_append]
    generalize step s l = r at h hk ⊢
    have hk2 : ∀ y ∈ logicalHeads r.2.mode.isCont f, ∀ t, y.cls = .tab t → y.key.1 = kw t :=
      fun y hy => hk y (List.mem_append_right _ hy)
    have hkeys := h.reread_keys hP tv
    cases h with
    | first t hm hs' hc ht =>
      -- the first printed line is listed like `l`; the further ones are dropped, as later lines of the input are
      obtain ⟨K, e2, hK⟩ := headKeys_reread_table hP tv t l
      have e1 : headKeys kw [Item.table t l] = [(kw t, none)] :=
        congrArg (· :: []) (keyOf_tab (hk l (List.mem_append_left _ (.head _)) t hc))
      have hs2 : ∀ t', St.seen { s.mark t with mode := contMode l .objCont } t' = true → kw t' ∈ kw t :: b := by
        intro t' ht'
        rw [seen_withMode, seen_mark, Bool.or_eq_true, decide_eq_true_iff] at ht'
        exact ht'.elim (fun e => e ▸ List.mem_cons_self ..) fun h => List.mem_cons_of_mem _ (hs t' h)
      dsimp only
      rw [e1, e2]
      simp only [List.cons_append, List.nil_append, coalesceFrom,
        coalesceFrom_append_tab (List.mem_cons_self ..) _ _ hK, ih _ _ hs2 hk2]
    | later t hm hs' hc ht =>
      have e : (keyOf kw l).1 = kw t := (keyOf_fst l).trans (hk l (List.mem_append_left _ (.head _)) t hc)
      exact (ih { s with mode := contMode l .objCont } b hs hk2).trans
        (coalesceFrom_append_tab (hs t ht) [keyOf kw l] _ fun k hk => List.mem_singleton.1 hk ▸ e).symm
    | _ =>
      rw [hkeys rfl]
      exact coalesceFrom_append_congr _ b fun b' hb => ih _ b' (fun t ht => hb _ (hs t ht)) hk2

/-- `order_preserved` whatever the tables are printed from, under what the proof uses: of `KeyOk` only `→` (a line
    that feeds a table has the keyword of that table). -/
theorem order_of_tables (hP : PrinterOk P kw) (tv : Tab → List α) (f : List (PLine α))
    (hsp : ∀ l ∈ f, l.spliced = false) (hk : ∀ l ∈ logicalHeads false f, ∀ t, l.cls = .tab t → l.key.1 = kw t) :
    coalesce kw (keySeq kw ((parse f).flatMap (emit P tv))) = coalesce kw (keySeq kw f) := by
  rw [keySeq_eq_parse, keySeq_eq_parse, parse_written hP tv f hsp]
  exact coalesceFrom_written hP tv f {} [] (fun t ht => by cases t <;> cases ht) hk

end order

/-- the instructions and atoms of the written file are those of the input, in the order of the input, after
    coalescing the SFAC lines and the FVAR lines at the position of the first. `hkw` and the `←` half of `KeyOk` are what
    make `coalesce`, which goes by keyword, drop exactly the lines the code absorbs, which goes by class; the equation
    holds without them (`order_of_tables`). -/
theorem order_preserved [DecidableEq α] (P : Printer α) (kw : Tab → α) (hkw : kw .sfac ≠ kw .fvar)
    (hP : PrinterOk P kw) (f : List (PLine α)) (hsp : ∀ l ∈ f, l.spliced = false)
    (hk : ∀ l ∈ logicalHeads false f, KeyOk kw l) :
    coalesce kw (keySeq kw (cycle P f)) = coalesce kw (keySeq kw f) :=
  order_of_tables hP _ f hsp fun l hl t => (hk l hl t).1

/-- the line `l` that follows the lines `pre` is not interpreted by the parser: it continues a line that no
    branch of the keyword chain turns into an object, or (outside a continuation) it starts such a line or is a
    non-empty line the loop skips (indented comment) -/
def RawAt (pre : List (PLine α)) (l : PLine α) : Prop :=
  l.spliced = false ∧
  match (endSt {} pre).mode with
  | .rawCont => True
  | .top => (l.skip = true ∧ l.empty = false) ∨ (l.skip = false ∧ l.cls = .raw)
  | .objCont => False

/-- a line the parser does not interpret is written unchanged (the same record: text and all) and in place: what is
    written before it (`a`) has the instruction sequence of `pre`. `hkw` and the `←` half of `KeyOk`: as in
    `order_preserved`, the proof uses neither. -/
theorem raw_verbatim [DecidableEq α] (P : Printer α) (kw : Tab → α) (hkw : kw .sfac ≠ kw .fvar)
    (hP : PrinterOk P kw) (pre post : List (PLine α)) (l : PLine α)
    (hsp : ∀ x ∈ pre, x.spliced = false) (hk : ∀ x ∈ logicalHeads false pre, KeyOk kw x)
    (hl : RawAt pre l) :
    ∃ a b, cycle P (pre ++ l :: post) = a ++ l :: b ∧ coalesce kw (keySeq kw a) = coalesce kw (keySeq kw pre) := by
  refine ⟨_, (parseAux (step (endSt {} pre) l).2 post).flatMap (emit P fun t => tableVals t (parse (pre ++ l :: post))),
    ?_, order_of_tables hP (fun t => tableVals t (parse (pre ++ l :: post))) pre hsp fun x hx t => (hk x hx t).1⟩
  rw [cycle, write, parse, parseAux_append, List.flatMap_append]
  refine congrArg _ (congrArg (· ++ _) ?_ : _ = [l] ++ _)
  obtain ⟨hl1, hl2⟩ := hl
  generalize endSt {} pre = s at hl2 ⊢
  cases hm : s.mode <;> rw [hm] at hl2
  · rcases hl2 with ⟨hs, he⟩ | ⟨hs, hc⟩
    · simp [(Step.skip hm hs).eq, emit, hl1, he]
    · simp [(Step.raw hm hs hc).eq, emit, hl1, empty_of_not_skip hs]
  · exact hl2.elim
  · simp [(Step.rawCont hm).eq, emit, hl1]

/-- the spliced content `inc` of an include file (nested files included) is self-contained: read from the top
    level it ends at the top level (its last line does not end in `=`), and it has no SFAC/FVAR line -/
def Closed (inc : List (PLine α)) : Prop :=
  (∀ s : St, s.mode = .top → endSt s inc = s) ∧ ∀ x ∈ inc, ∀ t, x.cls ≠ .tab t

/-- every `+name` line of `f` is a complete line and names a self-contained (or unreadable) file -/
def InclOk (fs : FS α) (k : Nat) (f : List (PLine α)) : Prop :=
  ∀ l ∈ f, ∀ n, l.incl = some n → l.cont = false ∧ Closed (expand fs k ((fs n).getD []))

theorem expand_spliced (fs : FS α) (k : Nat) (g : List (PLine α)) : ∀ x ∈ expand fs k g, x.spliced = true := by
  intro x hx
  induction k generalizing g with
  | zero =>
    obtain ⟨y, _, rfl⟩ := List.mem_map.1 hx
    rfl
  | succ k ih =>
    obtain ⟨l, _, hx⟩ := List.mem_flatMap.1 hx
    cases hi : l.incl with
    | none => simp only [hi, List.mem_singleton] at hx; exact hx ▸ rfl
    | some n => simp only [hi, List.mem_cons] at hx; exact hx.elim (· ▸ rfl) (ih _)

section includes
variable {s : St} {l : PLine α} {r : Item α × St}

namespace Step

theorem mode_of_not_cont (h : Step s l r) (hc : l.cont = false) : r.2.mode = .top := by
  cases h <;> simp [*, contMode_not_cont hc]

theorem emit_spliced (P : Printer α) (tv : Tab → List α) (h : Step s l r) (hl : l.spliced = true) :
    emit P tv r.1 = [] := by
  cases h <;> simp [emit, hl]

theorem itemVals_of_not_tab (t : Tab) (h : Step s l r) (hnt : ∀ t, l.cls ≠ .tab t) : itemVals t r.1 = [] := by
  -- only `first`/`later` carry a table class
  cases h <;> first | rfl | exact absurd ‹l.cls = _› (hnt _)

end Step

theorem flatMap_splice {β : Type} (φ : Item α → List β) (fs : FS α) (k : Nat)
    (hφ : ∀ s l r, Step s l r → l.spliced = true → (∀ t, l.cls ≠ .tab t) → φ r.1 = [])
    (f : List (PLine α)) (hok : InclOk fs k f) (s : St) :
    (parseAux s (spliceNew fs k f)).flatMap φ = (parseAux s f).flatMap φ := by
  induction f generalizing s with
  | nil => rfl
  | cons l rest ih =>
    have ih := ih (fun x hx => hok x (List.mem_cons_of_mem _ hx)) (step s l).2
    cases hi : l.incl with
    | none => simp only [spliceNew, List.flatMap_cons, spliceLineNew, hi, List.singleton_append, parseAux, ← ih]
    | some n =>
      obtain ⟨hc, hcl, hnt⟩ := hok l (List.mem_cons_self ..) n hi
      simp only [spliceNew, List.flatMap_cons, spliceLineNew, hi, List.cons_append, parseAux, parseAux_append,
        List.flatMap_append, hcl _ ((step_spec s l).mode_of_not_cont hc), ← ih]
      refine congrArg _ (List.append_left_eq_self.2 ?_)
      rw [flatMap_parseAux_congr (ψ := fun _ => []) fun x hx s r h => hφ s x r h (expand_spliced fs k _ x hx) (hnt x hx)]
      simp

end includes

/-- the lines spliced in from include files, nested to any depth, leave no trace in the written file: it is the file
    written when the `+name` lines are read as plain text. -/
theorem include_transparent (P : Printer α) (fs : FS α) (k : Nat) (f : List (PLine α)) (hok : InclOk fs k f) :
    cycle P (spliceNew fs k f) = cycle P f := by
  have e : (fun t => tableVals t (parse (spliceNew fs k f))) = fun t => tableVals t (parse f) :=
    funext fun t => flatMap_splice _ fs k (fun _ _ _ h _ hnt => h.itemVals_of_not_tab t hnt) f hok {}
  rw [cycle, write, e]
  exact flatMap_splice _ fs k (fun _ _ _ h hl _ => h.emit_spliced P _ hl) f hok {}

theorem iterO_fixed (g : List (PLine α) → Option (List (PLine α))) (x : List (PLine α)) (h : g x = some x) :
    ∀ n, iterO g n x = some x := by
  intro n
  induction n with
  | zero => rfl
  | succ n ih => simp [iterO, h, ih]

/-- any number `n + 1` of read/write cycles of a file with (nested) include files gives the file that one cycle
    without includes gives: nothing accumulates. Every include name is used once (otherwise the code
    raises `ValueError` in debug mode and leaves the second `+name` unexpanded in the other modes) and the include
    files are self-contained: `hf` for the input, `hg` for the written file `cycle P f`.
    `hg` is assumed, not derived from `hf`: that the `+name` lines of `cycle P f` are those of `f` (each written as
    an uninterpreted line, none printed for an object) is no part of `Stable`. -/
theorem include_no_accumulation [DecidableEq α] (P : Printer α) (kw : Tab → α) (hP : Stable P kw) (fs : FS α) (k : Nat)
    (f : List (PLine α)) (hsp : ∀ l ∈ f, l.spliced = false)
    (hf : (includeNames (spliceNew fs k f)).Nodup ∧ InclOk fs k f)
    (hg : (includeNames (spliceNew fs k (cycle P f))).Nodup ∧ InclOk fs k (cycle P f)) (n : Nat) :
    iterO (cycleNew P fs k) (n + 1) f = some (cycle P f) := by
  have h1 : cycleNew P fs k f = some (cycle P f) := by
    simp [cycleNew, hf.1, include_transparent P fs k f hf.2]
  have h2 : cycleNew P fs k (cycle P f) = some (cycle P f) := by
    simp [cycleNew, hg.1, include_transparent P fs k _ hg.2, write_fixpoint P kw hP f hsp]
  simp [iterO, h1, iterO_fixed _ _ h2 n]

/-! The arithmetic behind `Stable` for the real printers: a number formatted, read back and formatted again
(`card_idem`), the FVAR values cut into lines of 7 and joined again (`table_vals`). No printer is built from them;
`Stable` stays a hypothesis. -/

theorem roundHalfEven_int (k : Int) : roundHalfEven (k : Rat) = k := by
  simp [roundHalfEven, Rat.floor_intCast]

/-- `'{:.nf}'.format(float('{:.nf}'.format(x)))` prints the same digits (exact arithmetic) -/
theorem fmtFixed_idem (n : Nat) (x : Rat) : fmtFixed n (readFixed n (fmtFixed n x)) = fmtFixed n x := by
  unfold fmtFixed readFixed
  have h : (10 : Rat) ^ n ≠ 0 := pow_ne_zero _ (by norm_num)
  rw [div_mul_cancel₀ _ h, roundHalfEven_int]

theorem chunksFuel_flatten (fuel n : Nat) (l : List α) (h : l.length ≤ fuel) :
    (chunksFuel fuel n l).flatten = l := by
  induction fuel generalizing l with
  | zero => rw [List.length_eq_zero_iff.1 (Nat.le_zero.1 h)]; rfl
  | succ fuel ih =>
    cases l with
    | nil => rfl
    | cons a l =>
      have hd : ((a :: l).drop (n + 1)).length ≤ fuel := by rw [List.length_drop]; exact Nat.sub_le_of_le_add (by omega)
      rw [chunksFuel, List.isEmpty_cons, if_neg Bool.false_ne_true, List.flatten_cons, ih _ hd, List.take_append_drop]

/-- the values read back from the FVAR lines (7 per line) are the values of the table -/
theorem chunks_flatten (n : Nat) (l : List α) : (chunks n l).flatten = l :=
  chunksFuel_flatten _ _ _ (Nat.le_refl _)

/-- for `Witness.cycle_old_step`: a file of lines that are only passed through is a fixed point of `cycle` -/
theorem cycle_plain (P : Printer α) (f : List (PLine α))
    (h : ∀ l ∈ f, l.skip = false ∧ l.cls = .raw ∧ l.cont = false ∧ l.spliced = false) : cycle P f = f := by
  suffices H : ∀ tv (s : St), s.mode = .top → (parseAux s f).flatMap (emit P tv) = f from H _ {} rfl
  intro tv
  induction f with
  | nil => intros; rfl
  | cons l f ih =>
    intro s hm
    obtain ⟨hs, hc, hn, hsp⟩ := h l (List.mem_cons_self ..)
    rw [parseAux, (Step.raw hm hs hc).eq, contMode_not_cont hn, withMode_self hm, List.flatMap_cons,
      ih (fun x hx => h x (List.mem_cons_of_mem _ hx)) s hm]
    simp [emit, hsp, empty_of_not_skip hs]

namespace Witness

def kwN : Tab → Nat
  | .sfac => 100
  | .fvar => 101

def mk (text : Nat) (cls : Cls) (kwd : Nat) (cont : Bool := false) (incl : Option Nat := none) (vals : List Nat := []) :
    PLine Nat :=
  { text := text, indented := false, empty := false, cont := cont, cls := cls, key := (kwd, text), vals := vals,
    incl := incl, spliced := false }

/-- a printer over `Nat` texts: one normalised line per object, 7 values per table line. It prints no line for an
    empty table, so it is no `PrinterOk` (`table_ne`): the examples below evaluate the theorems' conclusions on it. -/
def Pn : Printer Nat where
  card l := [{ l with text := l.text / 2 * 2, cont := false, indented := false, empty := false, spliced := false }]
  table t vs := (chunks 6 vs).map fun c =>
    [{ text := 0, indented := false, empty := false, cont := false, cls := .tab t, key := (kwN t, c.headD 0), vals := c,
       incl := none, spliced := false }]

/-- `+inc` -/
def incLine : PLine Nat := mk 1 .raw 50 (incl := some 7)
/-- the one line of the include file -/
def x : PLine Nat := mk 2 .raw 51
def fsN : FS Nat := fun n => if n = 7 then some [x] else none

theorem cycle_old_step (k : Nat) :
    cycleOld Pn fsN (incLine :: List.replicate k x) = some (incLine :: List.replicate (k + 1) x) := by
  have hn : includeNames (incLine :: List.replicate k x) = [7] := by
    simp [includeNames, incLine, x, mk]
  have hs : spliceOld fsN (incLine :: List.replicate k x) = incLine :: List.replicate (k + 1) x := by
    rw [spliceOld, List.flatMap_cons, List.flatMap_replicate]
    exact congrArg _ List.flatten_replicate_singleton
  rw [cycleOld, hn, if_pos (by decide), hs, cycle_plain]
  intro l hl
  rcases List.mem_cons.1 hl with rfl | hl
  · decide
  · rw [List.eq_of_mem_replicate hl]; decide

/-- with `_find_included_files` as it was before fixes/C07_1, `n` read/write cycles of the file `+inc` leave `n`
    copies of the included line in the file. -/
theorem include_accumulates_old (n : Nat) :
    iterO (cycleOld Pn fsN) n [incLine] = some (incLine :: List.replicate n x) := by
  have gen : ∀ n k, iterO (cycleOld Pn fsN) n (incLine :: List.replicate k x)
      = some (incLine :: List.replicate (k + n) x) := by
    intro n k
    induction n generalizing k with
    | zero => rfl
    | succ n ih => rw [iterO, cycle_old_step, Option.bind_some, ih, Nat.add_right_comm]; rfl
  simpa using gen n 0

theorem copies_old (n : Nat) :
    (iterO (cycleOld Pn fsN) n [incLine]).map (List.count x) = some n := by
  rw [include_accumulates_old, Option.map_some, List.count_cons_of_ne (by decide), List.count_replicate_self]

/-- the repaired reader on the same file -/
example : iterO (cycleNew Pn fsN 2) 3 [incLine] = some [incLine] := by decide +kernel

def fsNested : FS Nat := fun n =>
  if n = 7 then some [x, mk 3 .raw 52 (incl := some 8), mk 4 .obj 53] else if n = 8 then some [mk 5 .atom 54] else none

example : iterO (cycleNew Pn fsNested 3) 3 [mk 9 .obj 55, incLine, mk 10 .raw 56]
    = some (cycle Pn [mk 9 .obj 55, incLine, mk 10 .raw 56]) := by decide +kernel
example : (spliceNew fsNested 3 [incLine]).length = 5 := by decide +kernel

/-- a file with every kind of line: comment, two SFAC and two FVAR lines (9 values), a wrapped instruction, an
    uninterpreted wrapped line, an unknown keyword, an atom, a blank line -/
def demo : List (PLine Nat) :=
  [ mk 10 .obj 1,
    { mk 11 .raw 0 with indented := true },
    mk 12 (.tab .sfac) 100 (vals := [1, 2]),
    mk 13 .obj 2 (cont := true), { mk 14 .raw 0 with indented := true },
    mk 15 (.tab .sfac) 100 (vals := [3]),
    mk 16 (.tab .fvar) 101 (vals := [1, 2, 3, 4, 5]),
    mk 17 .raw 3 (cont := true), { mk 18 .raw 0 with indented := true },
    { mk 19 .raw 0 with empty := true },
    mk 20 (.tab .fvar) 101 (vals := [6, 7, 8, 9]),
    mk 21 .atom 4,
    mk 23 .raw 5 ]

example : coalesce kwN (keySeq kwN (cycle Pn demo)) = coalesce kwN (keySeq kwN demo) := by decide +kernel
example : cycle Pn (cycle Pn demo) = cycle Pn demo := by decide +kernel
example : (keySeq kwN (cycle Pn demo)).length = 8 ∧ (keySeq kwN demo).length = 9
    ∧ (coalesce kwN (keySeq kwN demo)).length = 7 := by decide +kernel
example : ∀ t, tableVals t (parse (cycle Pn demo)) = tableVals t (parse demo) := by
  intro t; cases t <;> decide +kernel
example : RawAt (demo.take 7) (mk 17 .raw 3 (cont := true)) ∧ RawAt (demo.take 8) { mk 18 .raw 0 with indented := true } := by
  refine ⟨⟨rfl, ?_⟩, ⟨rfl, ?_⟩⟩
  · rw [show (endSt {} (demo.take 7)).mode = .top from by decide]
    exact Or.inr ⟨rfl, rfl⟩
  · rw [show (endSt {} (demo.take 8)).mode = .rawCont from by decide]
    trivial

end Witness

end Shelx.C07
