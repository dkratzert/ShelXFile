/-
  C02 — valid input is parsed to the end; no valid instruction truncates the model.

  `T` is the requirement table REGENERATED from the repository on every run (`ShelxModel/Extracted/C02Dispatch.lean`:
  dispatch chain of `_parse_cards`, constructors of `cards.py`, `Atom.parse_line`, `is_atom`), so the `decide` theorems
  are re-checked against what the code says now: removing a length guard, converting the wrong token or evaluating an
  undefined name on a reachable path makes `accepts` false for some valid form, and the theorem over it fails to check.

  What holds of one valid keyword line is read off a single sweep of the syntax table (`entries_ok`, as `entry_line`);
  whole files, for any table, go through `runLines`, on which `loop` only counts.  `Lemmas/C02Local.lean` is what lets
  the sweep run a handler that ignores the context once (`entryFast`).

  Open finding (known_findings.jsonl): `is_atom` refuses an atom line with a free-variable coded coordinate (kind `big`
  in x, y or z).  The property at full strength is therefore only stated (`AtomsRecognisedStatement`), proved under
  `plainCoords` (`atoms_recognised_partial`) and refuted by a witness (`atoms_recognised_fails_on`).
-/
import ShelxModel.C02
import ShelxModel.Extracted.C02Dispatch
import ShelxProps.Lemmas.C02Local

namespace Shelx.C02.Props
open Shelx.C02

abbrev T : Tables := Shelx.C02.Extracted.tables

theorem forms_code {s : Syn} {f : Form} (h : f ∈ s.forms) : f.code = s.code := by
  unfold Syn.forms at h
  simp only [List.mem_flatMap, List.mem_map] at h
  obtain ⟨_, _, _, _, rfl⟩ := h
  rfl

theorem selectBranch_eq_selectKw (T : Tables) (f : Form) (h : T.shxCodes.contains f.code = true) :
    selectBranch T f = selectKw T f.code := by
  have hm : f.code ∈ T.shxCodes := by simpa using h
  unfold selectBranch selectKw
  congr 1
  funext b
  cases hb : b.test <;> simp [Test.holds, Test.holdsKw, lineIsAtom, Form.isAtomName, hm]

theorem entryOk_iff {T : Tables} {s : Syn} : entryOk T s = true ↔
    T.shxCodes.contains s.code = true ∧ ∃ b, selectKw T s.code = some b ∧ b.test ≠ .otherwise ∧
      ∀ c ∈ s.slot.ctxs, ∀ f ∈ s.forms, ∀ m ∈ allModes, ∃ c', runBranch T m c b f = .ok c' ∧
        (s.slot.isBody = true → c ∈ bodyCtxs → c' ∈ bodyCtxs) ∧ closedAfter s.slot c' = true ∧
        (s.slot = .body → c ∈ preCtxs → c' = c) := by
  unfold entryOk
  cases selectKw T s.code with
  | none => simp
  | some b =>
    simp only [Bool.and_eq_true, List.all_eq_true, bne_iff_ne, ne_eq, Option.some.injEq, exists_eq_left']
    refine and_congr_right fun _ => and_congr_right fun _ => forall₂_congr fun c _ => forall₂_congr fun f _ =>
      forall₂_congr fun m _ => ?_
    cases runBranch T m c b f <;> simp [Decidable.imp_iff_not_or, or_assoc, and_assoc]

/-- `entryOk` with a `Branch.ctxFree` handler run once per form, in the empty context (in quiet mode only, if it does
    not test the mode either): by `runBranch_ctxFree` neither its outcome nor the context depends on where it runs, so
    of the post-conditions only `closedAfter` on the slot's own contexts is left to check. -/
def entryFast (T : Tables) (s : Syn) : Bool :=
  (selectKw T s.code).any fun b =>
    if b.ctxFree true T then
      T.shxCodes.contains s.code && b.test != .otherwise && s.slot.ctxs.all (closedAfter s.slot) &&
        s.forms.all fun f => (if b.ctxFree false T then [.quiet] else allModes).all fun m => (runBranch T m {} b f).toBool
    else entryOk T s

theorem entryOk_of_fast {T : Tables} {s : Syn} (h : entryFast T s = true) : entryOk T s = true := by
  obtain ⟨b, hk, h⟩ := (Option.any_eq_true _ _).mp h
  split at h
  next hb =>
    simp only [Bool.and_eq_true, List.all_eq_true, bne_iff_ne, ne_eq] at h
    obtain ⟨⟨⟨hcard, hne⟩, hcl⟩, hrun⟩ := h
    refine entryOk_iff.mpr ⟨hcard, b, hk, hne, fun c hc f hf m hm => ⟨c, ?_, fun _ h => h, hcl c hc, fun _ _ => rfl⟩⟩
    have hrun := hrun f hf
    split at hrun
    next hb₀ => exact runBranch_ok_of_ctxFree (fixMode := false) nofun c hb₀ {} f (hrun .quiet List.mem_cons_self)
    next => exact runBranch_ok_of_ctxFree (fun _ => rfl) c hb {} f (hrun m hm)
  next => exact h

theorem entries_fast_ok : syntaxTable.all (entryFast T) = true := by decide +kernel

theorem entries_ok : syntaxTable.all (entryOk T) = true :=
  List.all_eq_true.mpr fun s hs => entryOk_of_fast (List.all_eq_true.mp entries_fast_ok s hs)

/-- the numeric codes through which keywords are compared are the codes of the keyword strings, in the regenerated
    table and in the syntax table, and every `card` act points at the class it names -/
theorem codes_consistent : T.codesOk = true ∧ syntaxTable.all (fun s => encode s.kw == s.code) = true := by
  decide +kernel

/-- The abstract lines carry the keyword in upper case: the model is blind to the case the file uses.  That is sound
    only while each of the four places that read the keyword off the line folds its case (`line.upper()` before
    `word = line[:4]`, `atomline[:4].upper()` in `is_atom`, `spline[0].upper()` on every path of `Command._parse_line`
    and of `Restraint._parse_line`).  The harness parses every keyword in lower, Title and mIxEd case in all three modes. -/
theorem keyword_case_folded : T.caseSites.length = 4 ∧ T.caseSites.all (·.2) = true := by decide

theorem atoms_ok : (atomForms.filter plainCoords).all (atomOk T) = true := by decide +kernel

/-- What the sweep `entries_ok` establishes of one valid keyword line: `f` is a form of the syntax entry `s`, met in
    mode `m` in a context `c` the slot of `s` allows; `b` is the branch of `_parse_cards` that takes the line and `c'`
    the context its handler leaves behind. -/
structure Handled (s : Syn) (m : Mode) (c : Ctx) (f : Form) (b : Branch) (c' : Ctx) : Prop where
  select : selectBranch T f = some b
  /-- `b` is a keyword branch: not the final `else` … -/
  notElse : b.test ≠ .otherwise
  /-- … and not the atom branch -/
  notAtom : b.test ≠ .isAtom
  /-- the line is accepted -/
  step : stepLine T m c f = .ok c'
  /-- an instruction of the body keeps a body context a body context -/
  body : s.slot.isBody = true → c ∈ bodyCtxs → c' ∈ bodyCtxs
  /-- `c'` is a context every slot that may follow allows -/
  closed : closedAfter s.slot c' = true
  /-- a body instruction in front of SFAC leaves the context as it met it -/
  same : s.slot = .body → c ∈ preCtxs → c' = c

theorem entry_line {s : Syn} (hs : s ∈ syntaxTable) {c : Ctx} (hc : c ∈ s.slot.ctxs) {f : Form} (hf : f ∈ s.forms)
    {m : Mode} (hm : m ∈ allModes) : ∃ b c', Handled s m c f b c' := by
  obtain ⟨hcard, b, hk, hne, hall⟩ := entryOk_iff.mp (List.all_eq_true.mp entries_ok s hs)
  obtain ⟨c', hr, hbody, hcl, hsame⟩ := hall c hc f hf m hm
  rw [← forms_code hf] at hcard hk
  have hsel := (selectBranch_eq_selectKw T f hcard).trans hk
  have hatom : b.test ≠ .isAtom := fun h => by simpa [h, Test.holdsKw] using List.find?_some hk
  -- `is_atom` does not reach its coordinate conversion on a keyword line
  have hraise : atomTestRaises T f = false := by rw [atomTestRaises, Form.isAtomName, hcard]; rfl
  exact ⟨b, c', hsel, hne, hatom, by simpa [stepLine, hraise, hsel] using hr, hbody, hcl, hsame⟩

/-- Every keyword of the syntax table, in every legal parameter form and every context the syntax allows it in, is
    accepted by its handler in all three modes: no unguarded index, no failing conversion, no undefined name, no
    reachable raise. -/
theorem handler_total : ∀ m ∈ allModes, ∀ cf ∈ allValidCases, accepts T m cf.1 cf.2 = true := by
  intro m hm cf hcf
  simp only [allValidCases, List.mem_flatMap, List.mem_map] at hcf
  obtain ⟨s, hs, c, hc, f, hf, rfl⟩ := hcf
  obtain ⟨_, _, hd⟩ := entry_line hs hc hf hm
  simp [accepts, hd.step, Except.toBool]

/-- not vacuous: a 13-parameter HKLF is among the cases -/
example : (({ last := "UNIT", flags := ["cell", "latt", "sfac"] } : Ctx),
           ({ kw := "HKLF", toks := [.int, .num, .int, .int, .int, .int, .int, .int, .int, .int, .int, .num, .int], code := 1212894278 } : Form))
          ∈ allValidCases := by
  simp only [allValidCases, List.mem_flatMap, List.mem_map]
  exact ⟨_, List.mem_of_getElem? (i := 16) rfl, _, by decide +kernel, _, by decide +kernel, rfl⟩

/-- Every valid form of every keyword is dispatched to a keyword branch of `_parse_cards`: it is neither taken for an
    atom nor does it fall through to the final `else` (whose debug arm raises). -/
theorem dispatch_covers_syntax :
    ∀ f ∈ allValidForms, ∃ b ∈ T.dispatch, selectBranch T f = some b ∧ b.test ≠ .otherwise ∧ b.test ≠ .isAtom := by
  intro f hf
  obtain ⟨s, hs, hf⟩ := List.mem_flatMap.mp hf
  obtain ⟨c, hc⟩ : ∃ c, c ∈ s.slot.ctxs := by cases s.slot <;> exact ⟨_, List.mem_cons_self⟩
  obtain ⟨b, _, hd⟩ := entry_line hs hc hf (m := .quiet) List.mem_cons_self
  exact ⟨b, List.mem_of_find?_eq_some hd.select, hd.select, hd.notElse, hd.notAtom⟩

def AtomsRecognisedStatement : Prop := ∀ f ∈ atomForms, lineIsAtom T f = true

/-- Every atom line shape (5, 6, 7, 8, 12 columns; sof / U carrying a free-variable code) whose coordinates are plain
    numbers — none written 10m+p, the class of the open finding — is recognised as an atom and accepted by its parser,
    in every mode. -/
theorem atoms_recognised_partial :
    ∀ f ∈ atomForms, plainCoords f = true →
      lineIsAtom T f = true ∧ ∀ c ∈ bodyCtxs, ∀ m ∈ allModes, ∃ c' ∈ bodyCtxs, stepLine T m c f = .ok c' := by
  intro f hf hp
  have h := List.all_eq_true.mp atoms_ok f (List.mem_filter.mpr ⟨hf, hp⟩)
  simp only [atomOk, Bool.and_eq_true, List.all_eq_true] at h
  obtain ⟨hatom, hall⟩ := h
  refine ⟨hatom, fun c hc m hm => ?_⟩
  have := hall c hc m hm
  split at this
  next c' hs => exact ⟨c', by simpa using this, hs⟩
  next => cases this

example : ({ kw := "C1", toks := [.int, .num, .num, .num], code := 17201 } : Form) ∈ atomForms ∧
          plainCoords { kw := "C1", toks := [.int, .num, .num, .num], code := 17201 } = true := by decide +kernel

/-- witness of the open finding: `C1 1 10.25 0.2 0.3 11.0 0.04` is not an atom for `is_atom` … -/
theorem atoms_recognised_fails_on : ¬ AtomsRecognisedStatement := fun h =>
  absurd (h { kw := "C1", toks := [.int, .big, .num, .num, .big, .num], code := 17201 } (by decide +kernel))
    (by decide +kernel)

/-- … and in debug mode the line raises (unknown-line branch), while quiet mode passes over it -/
theorem coded_coordinate_modes_differ :
    accepts T .debug { last := "UNIT", flags := ["cell", "latt", "sfac"] } { kw := "C1", toks := [.int, .big, .num, .num, .big, .num], code := 17201 } = false ∧
    accepts T .quiet { last := "UNIT", flags := ["cell", "latt", "sfac"] } { kw := "C1", toks := [.int, .big, .num, .num, .big, .num], code := 17201 } = true := by
  decide +kernel

/-- every line of the file is accepted in the context the lines before it left behind: `runLines` as a predicate
    (`allAccepted_iff`); the hypothesis under which `parse_reaches_end` and `modes_agree` speak of any table -/
def AllAccepted (T : Tables) (m : Mode) : Ctx → List Form → Prop
  | _, [] => True
  | c, f :: r => ∃ c', stepLine T m c f = .ok c' ∧ AllAccepted T m c' r

/-- the context the lines `l`, taken in turn from context `c`, leave behind; `none` if one of them is refused.  It is
    `loop` without the counting (`loop_of_runLines`). -/
def runLines (T : Tables) (m : Mode) : Ctx → List Form → Option Ctx
  | c, [] => some c
  | c, f :: r => match stepLine T m c f with
    | .ok c' => runLines T m c' r
    | .error _ => none

theorem runLines_append (T : Tables) (m : Mode) :
    ∀ (l r : List Form) (c : Ctx), runLines T m c (l ++ r) = (runLines T m c l).bind (runLines T m · r)
  | [], _, _ => rfl
  | f :: l, r, c => by cases h : stepLine T m c f <;> simp [runLines, h, runLines_append T m l]

theorem allAccepted_iff (T : Tables) (m : Mode) :
    ∀ (l : List Form) (c : Ctx), AllAccepted T m c l ↔ ∃ c', runLines T m c l = some c'
  | [], _ => by simp [AllAccepted, runLines]
  | f :: l, c => by cases h : stepLine T m c f <;> simp [AllAccepted, runLines, h, allAccepted_iff T m l]

theorem loop_of_runLines (T : Tables) (m : Mode) :
    ∀ (l : List Form) (c c' : Ctx) (i : Nat), runLines T m c l = some c' →
      loop T m c i l =
        { lastLine := i + l.length - 1, consumed := i + l.length, innerErr := none, raised := none, ctx := c' }
  | [], _, _, _, h => by cases h; rfl
  | f :: l, c, c', i, h => by
    cases hs : stepLine T m c f <;> simp [runLines, hs] at h
    simp only [loop, hs, loop_of_runLines T m l _ c' (i + 1) h, List.length_cons, Nat.add_right_comm i 1, Nat.add_assoc]

/-- If every line is accepted, `parse_cards` looks at every line, `error_line_num` ends on the last one, nothing leaves
    `_parse_cards` and nothing leaves `parse_cards` — in any of the three modes. -/
theorem parse_reaches_end (T : Tables) (m : Mode) (file : List Form) (h : AllAccepted T m {} file) :
    SpecHolds (parseAll T m file) file.length := by
  obtain ⟨c', hr⟩ := (allAccepted_iff T m file {}).mp h
  simp [SpecHolds, parseAll, loop_of_runLines T m file {} c' 0 hr]

/-- on the property's observables the three modes agree: they end on the same line, with the same (empty) error -/
theorem modes_agree (T : Tables) (file : List Form)
    (hq : AllAccepted T .quiet {} file) (hv : AllAccepted T .verbose {} file) (hd : AllAccepted T .debug {} file) :
    let q := parseAll T .quiet file; let v := parseAll T .verbose file; let d := parseAll T .debug file
    q.lastLine = v.lastLine ∧ q.lastLine = d.lastLine ∧ q.consumed = v.consumed ∧ q.consumed = d.consumed ∧
    q.innerErr = v.innerErr ∧ q.innerErr = d.innerErr ∧ q.raised = none ∧ v.raised = none ∧ d.raised = none := by
  obtain ⟨qe, qr, qc, ql⟩ := parse_reaches_end T .quiet file hq
  obtain ⟨ve, vr, vc, vl⟩ := parse_reaches_end T .verbose file hv
  obtain ⟨de, dr, dc, dl⟩ := parse_reaches_end T .debug file hd
  exact ⟨ql.trans vl.symm, ql.trans dl.symm, qc.trans vc.symm, qc.trans dc.symm, qe.trans ve.symm, qe.trans de.symm,
    qr, vr, dr⟩

/-- Whatever the text — valid or not, for ANY table — nothing leaves `parse_cards` in quiet mode (and in verbose mode);
    only debug re-raises. -/
theorem quiet_total (T : Tables) (m : Mode) (hm : m ≠ .debug) :
    ∀ (file : List Form) (c : Ctx) (i : Nat), (loop T m c i file).raised = none := by
  intro file
  induction file with
  | nil =>
    intro c i
    rfl
  | cons f r ih =>
    intro c i
    simp only [loop]
    cases stepLine T m c f with
    | ok c' => exact ih c' (i + 1)
    | error e => exact if_neg (by simpa using hm)

theorem quiet_never_raises (T : Tables) (file : List Form) : (parseAll T .quiet file).raised = none :=
  quiet_total T .quiet (by decide) file {} 0

theorem body_ctxs_sub : ∀ {sl : Slot}, sl.isBody = true → ∀ c ∈ bodyCtxs, c ∈ sl.ctxs
  | .body, _, _, hc => List.mem_cons_of_mem _ (List.mem_cons_of_mem _ hc)
  | .fvar, _, _, hc | .hklf, _, _, hc | .endd, _, _, hc => hc

theorem body_step_closed :
    ∀ m ∈ allModes, ∀ c ∈ bodyCtxs, ∀ f ∈ bodyForms, ∃ c' ∈ bodyCtxs, stepLine T m c f = .ok c' := by
  intro m hm c hc f hf
  rcases List.mem_append.mp hf with hf | hf
  · obtain ⟨s, hs, hf⟩ := List.mem_flatMap.mp hf
    obtain ⟨hs, hbody⟩ := List.mem_filter.mp hs
    obtain ⟨_, c', hd⟩ := entry_line hs (body_ctxs_sub hbody c hc) hf hm
    exact ⟨c', hd.body hbody hc, hd.step⟩
  · obtain ⟨hf, hp⟩ := List.mem_filter.mp hf
    exact (atoms_recognised_partial f hf hp).2 c hc m hm

theorem body_lines_run {m : Mode} (hm : m ∈ allModes) :
    ∀ (l : List Form), (∀ f ∈ l, f ∈ bodyForms) → ∀ c ∈ bodyCtxs, ∃ c' ∈ bodyCtxs, runLines T m c l = some c'
  | [], _, c, hc => ⟨c, hc, rfl⟩
  | f :: l, hl, c, hc => by
    obtain ⟨c₁, hc₁, hs⟩ := body_step_closed m hm c hc f (hl f List.mem_cons_self)
    simp only [runLines, hs]
    exact body_lines_run hm l (fun g hg => hl g (List.mem_cons_of_mem _ hg)) c₁ hc₁

theorem file_accepted {m : Mode} (hm : m ∈ allModes) {h : List Form} {c : Ctx} (hrun : runLines T m {} h = some c)
    (hc : c ∈ bodyCtxs) {body : List Form} (hb : ∀ f ∈ body, f ∈ bodyForms) : AllAccepted T m {} (h ++ body) := by
  obtain ⟨c', _, hr⟩ := body_lines_run hm body hb c hc
  exact (allAccepted_iff T m _ _).mpr ⟨c', by rw [runLines_append, hrun]; exact hr⟩

/-- the header of the files the harness generates, with a title of two words (the harness writes four) -/
def stdHeader : List Form := [
  { kw := "TITL", toks := [.word, .word] },
  { kw := "CELL", toks := [.num, .big, .big, .big, .big, .big, .big] },
  { kw := "ZERR", toks := [.int, .num, .num, .num, .num, .num, .num] },
  { kw := "LATT", toks := [.int] },
  { kw := "SYMM", toks := [.sym, .sym, .sym] },
  { kw := "SFAC", toks := [.word, .word, .word] },
  { kw := "UNIT", toks := [.int, .int, .int] }]

/-- `stdHeader` is run, not derived from `validHeader_runs`: its TITL line (two words) and its SFAC line (three
    names) have lengths `syntaxTable` does not list for them (TITL 0, 1, 4 words; SFAC 1, 2, 4 names), so it is no
    `ValidHeader`. -/
theorem header_runs : ∀ m ∈ allModes, runLines T m {} stdHeader = some { last := "UNIT", flags := ["cell", "latt", "sfac"] } := by
  decide +kernel

/-- The standard header followed by ANY sequence of valid body lines, of any length, is parsed to its last line without
    exception, in each of the three modes. -/
theorem valid_no_raise (m : Mode) (hm : m ∈ allModes) (body : List Form) (hb : ∀ f ∈ body, f ∈ bodyForms) :
    SpecHolds (parseAll T m (stdHeader ++ body)) (stdHeader ++ body).length :=
  parse_reaches_end T m _ (file_accepted hm (header_runs m hm) List.mem_cons_self hb)

theorem pre_ctxs_sub : ∀ c ∈ preCtxs, c ∈ Slot.body.ctxs := by decide +kernel

theorem closedAfter_iff {s : Slot} {c : Ctx} : closedAfter s c = true ↔
    (∀ s' ∈ s.next, c ∈ s'.ctxs) ∧ (s.allowsPre = true → c ∈ preCtxs) ∧ (s = .unit → c ∈ bodyCtxs) := by
  simp [closedAfter, and_assoc, Decidable.imp_iff_not_or]

/-- Whatever continuation of the header the grammar allows, every line is accepted in the context the lines before it
    left behind, and the line after UNIT meets a body context.  The step is the `closedAfter` clause of `entries_ok`: a
    handler that leaves a `lastcard` behind which its own order test, or that of a legal successor, refuses makes
    `entries_ok` fail. -/
theorem header_closed (m : Mode) (hm : m ∈ allModes) :
    ∀ {s : Slot} {l : List Form}, Header s l → ∀ c, closedAfter s c = true → ∃ c' ∈ bodyCtxs, runLines T m c l = some c' := by
  intro s l h
  induction h with
  | done => exact fun c hc => ⟨c, (closedAfter_iff.mp hc).2.2 rfl, rfl⟩
  | @step s e f l he hn hf _ ih =>
    intro c hc
    obtain ⟨_, c₁, hd⟩ := entry_line he ((closedAfter_iff.mp hc).1 _ hn) hf hm
    simp only [runLines, hd.step]
    exact ih c₁ hd.closed
  | @pre s e f l hp he hb hf _ ih =>
    intro c hc
    have hpc := (closedAfter_iff.mp hc).2.1 hp
    obtain ⟨_, c₁, hd⟩ := entry_line he (hb ▸ pre_ctxs_sub c hpc) hf hm
    simp only [runLines, hd.step, hd.same hb hpc]
    exact ih c hc

theorem validHeader_runs (m : Mode) (hm : m ∈ allModes) {h : List Form} (hh : ValidHeader h) :
    ∃ c' ∈ bodyCtxs, runLines T m {} h = some c' := by
  obtain ⟨e, he, f, hf, r, hslot, rfl, hr⟩ := hh
  obtain ⟨_, c₁, hd⟩ := entry_line he (by rw [hslot]; exact List.mem_cons_self) hf hm
  simp only [runLines, hd.step]
  exact header_closed m hm hr c₁ (hslot ▸ hd.closed)

theorem valid_file_accepted {m : Mode} (hm : m ∈ allModes) {h : List Form} (hh : ValidHeader h) {body : List Form}
    (hb : ∀ f ∈ body, f ∈ bodyForms) : AllAccepted T m {} (h ++ body) :=
  let ⟨_, hc, hrun⟩ := validHeader_runs m hm hh
  file_accepted hm hrun hc hb

/-- ANY header of the grammar (any history of header lines) followed by ANY sequence of valid body lines, of any
    length, is parsed to its last line without exception, in each of the three modes. -/
theorem valid_file_no_raise (m : Mode) (hm : m ∈ allModes) (h : List Form) (hh : ValidHeader h)
    (body : List Form) (hb : ∀ f ∈ body, f ∈ bodyForms) :
    SpecHolds (parseAll T m (h ++ body)) (h ++ body).length :=
  parse_reaches_end T m _ (valid_file_accepted hm hh hb)

/-- the three modes end on the same line for every such file -/
theorem valid_file_modes_agree (h : List Form) (hh : ValidHeader h) (body : List Form) (hb : ∀ f ∈ body, f ∈ bodyForms) :
    (parseAll T .quiet (h ++ body)).lastLine = (parseAll T .verbose (h ++ body)).lastLine ∧
    (parseAll T .quiet (h ++ body)).lastLine = (parseAll T .debug (h ++ body)).lastLine :=
  have acc (m : Mode) (hm : m ∈ allModes) := valid_file_accepted hm hh hb
  let ⟨hv, hd, _⟩ := modes_agree T _ (acc .quiet (by decide)) (acc .verbose (by decide)) (acc .debug (by decide))
  ⟨hv, hd⟩

/-- `Header` as a Bool (sound by `header_of_ok`), evaluated for the example below; `e.code == f.code` comes first so that
    the kernel compares no keyword strings while it scans the table -/
def headerOk : Slot → List Form → Bool
  | s, [] => s == .unit
  | s, f :: l => syntaxTable.any fun e => e.code == f.code && decide (f ∈ e.forms) &&
      (s.next.contains e.slot && headerOk e.slot l || s.allowsPre && e.slot == .body && headerOk s l)

theorem header_of_ok : ∀ (l : List Form) (s : Slot), headerOk s l = true → Header s l
  | [], s, h => by cases (beq_iff_eq.mp h : s = .unit); exact .done
  | f :: l, s, h => by
    obtain ⟨e, he, h⟩ := List.any_eq_true.mp h
    simp only [Bool.and_eq_true, Bool.or_eq_true, decide_eq_true_eq, beq_iff_eq, List.contains_iff_mem] at h
    obtain ⟨⟨_, hf⟩, ⟨hn, hl⟩ | ⟨⟨hp, hb⟩, hl⟩⟩ := h
    · exact .step he hn hf (header_of_ok l _ hl)
    · exact .pre hp he hb hf (header_of_ok l _ hl)

def sfacExplicit : List Kind := [.word, .num, .num, .num, .num, .num, .num, .num, .num, .num, .num, .num, .num, .num, .num]

/-- not vacuous: repeated SYMM, SFAC (explicit scattering factors) and DISP lines, a body instruction and NEUT in front
    of SFAC -/
example : ValidHeader [
    { kw := "TITL", toks := [.word], code := 1414091852 },
    { kw := "CELL", toks := [.num, .big, .big, .big, .big, .big, .big], code := 1128614988 },
    { kw := "ZERR", toks := [.int, .num, .num, .num, .num, .num, .num], code := 1514492498 },
    { kw := "LATT", toks := [.int], code := 1279349844 },
    { kw := "SYMM", toks := [.sym, .sym, .sym], code := 1398361421 },
    { kw := "SYMM", toks := [.sym], code := 1398361421 },
    { kw := "MORE", toks := [.int], code := 1297044037 },
    { kw := "NEUT", toks := [], code := 1313166676 },
    { kw := "SFAC", toks := sfacExplicit, code := 1397113155 },
    { kw := "SFAC", toks := sfacExplicit, code := 1397113155 },
    { kw := "DISP", toks := [.word, .num, .num], code := 1145656144 },
    { kw := "DISP", toks := [.word, .num, .num, .num], code := 1145656144 },
    { kw := "UNIT", toks := [.int, .int, .int], code := 1431193940 }] := by
  exact ⟨_, List.mem_of_getElem? (i := 0) rfl, _, by decide +kernel, _, rfl, rfl, header_of_ok _ _ (by decide +kernel)⟩

example : ∀ f ∈ ([{ kw := "TEMP", toks := [] }, { kw := "C1", toks := [.int, .num, .num, .num] },
                  { kw := "HKLF", toks := [.int] }, { kw := "END", toks := [] }] : List Form), f ∈ bodyForms := by
  decide +kernel

end Shelx.C02.Props
