/-
  C19 — property theorems (model and specification: ShelxModel/C19.lean).

  Quantified over all file contents `B`, all documents, all codecs (`text`/`garbled`/`parse`/`size` are arbitrary
  functions: no assumption on the writer or the parser is used), all states of the directory (including a stale
  <name>.shx-bak, a missing .res/.hkl), all outcomes of the external program and all call histories.

  `Fix.all` is the repaired code (fixes/C19_1 … C19_5, C04_1); the `…_orig_fails_on` theorems are the `decide`-proved
  witnesses that the code as found (`Fix.none`, or one repair missing) violates the same statements.

  Everything about the repaired code rests on one table, `refine_cases`: a call is not started, or rejected, or accepted,
  and in each case the complete result is written out. `plausible` enters in one place only (`rejected_eq_failed`: on
  plausible outcomes the code's test for a failed run is the property's; a failed run is rejected without it,
  `rejected_of_failed`).
-/
import ShelxModel.C19

namespace Shelx.C19
variable {B R : Type}

/-- the directory after a backup step that went through (with `backup`, <name>.res is there) -/
def backedUp (backup : Bool) (fs : FS B) : FS B :=
  { fs with
    bak := if backup then fs.res else fs.bak
    saves := if backup then fs.res.toList ++ fs.saves else fs.saves }

theorem backupStep_some {backup : Bool} {fs fs1 : FS B} (h : backupStep backup fs = some fs1) :
    fs1 = backedUp backup fs := by
  obtain ⟨res, ins, bak, hkl, saves⟩ := fs
  cases backup <;> cases res <;> cases h <;> rfl

theorem restoreStep_ins (f : Fix) (backup : Bool) (fs : FS B) : (restoreStep f backup fs).ins = fs.ins := by
  unfold restoreStep
  split
  · rfl
  · split <;> rfl

theorem runShelxl_ins (f : Fix) (c : Codec B R) (fs : FS B) (call : Call B) :
    (runShelxl f c fs call).1.ins = fs.ins := by
  fun_cases runShelxl f c fs call
  · rfl
  · rfl
  all_goals
    cases backupStep_some ‹backupStep _ _ = some _›
    first | rfl | exact restoreStep_ins _ _ _

theorem runShelxl_not_started (f : Fix) (c : Codec B R) (fs : FS B) (call : Call B)
    (h : (fs.hkl && (!call.backup || fs.res.isSome)) = false) :
    runShelxl f c fs call = (fs, some .SystemExit) := by
  obtain ⟨res, ins, bak, hkl, saves⟩ := fs
  unfold runShelxl backupStep
  cases hkl <;> cases hb : call.backup <;> cases res <;> simp_all

theorem runShelxl_none (f : Fix) (c : Codec B R) (fs : FS B) (call : Call B)
    (h : (runShelxl f c fs call).2 = none) :
    ∃ b, (runShelxl f c fs call).1.res = some b ∧ left fs.res call.out.res = some b := by
  revert h
  fun_cases runShelxl f c fs call
  -- the last branch of the definition is the only one that returns without an exception
  all_goals
    intro h
    cases h
  -- there the backup step went through, which leaves .res alone, and the `match` on .res has found the result
  cases backupStep_some ‹backupStep _ _ = some _›
  exact ⟨_, ‹FS.res _ = some _›, ‹FS.res _ = some _›⟩

theorem removeActa_eq (m : Mem R) : (removeActa m).1.doc.acta = none ∧ (removeActa m).2 = m.doc.acta := by
  unfold removeActa
  split <;> simp [*]

/-- the memory object handed to `write_shelx_file` -/
def insMem (st : St B R) (call : Call B) : Mem R :=
  (removeActa (setCycles call.cycles st.mem)).1

/-- its document is `insDoc`; `removeActa` (`del _reslist[index_of(acta)]`) moves the lines behind the card up by one -/
theorem insMem_eq (st : St B R) (call : Call B) :
    insMem st call = ⟨insDoc st call, st.mem.dow, st.mem.skew - if st.mem.doc.acta.isSome then 1 else 0⟩ := by
  obtain ⟨fs, ⟨⟨acta, cyc, rest⟩, dow, skew⟩⟩ := st
  obtain ⟨cycles, backup, o⟩ := call
  cases acta <;> cases cycles <;> first | rfl | exact congrArg (Mem.mk _ _) (Int.sub_zero skew).symm

theorem insMem_doc (st : St B R) (call : Call B) : (insMem st call).doc = insDoc st call :=
  congrArg Mem.doc (insMem_eq st call)

/-- `refine`, with the card `remove_acta_card` keeps written as what it is: the one the model has -/
theorem refine_eq (f : Fix) (c : Codec B R) (st : St B R) (call : Call B) :
    refine f c st call = finish f c st.mem.doc.acta (insMem st call)
      (runShelxl f c { st.fs with ins := some (write f c (insMem st call)) } call) := by
  have : (removeActa (setCycles call.cycles st.mem)).2 = st.mem.doc.acta := by
    rw [(removeActa_eq _).2]
    cases call.cycles <;> rfl
  rw [← this]
  rfl

theorem finish_fs (f : Fix) (c : Codec B R) (s : Option Acta) (m : Mem R) (x : FS B × Option PyErr) :
    (finish f c s m x).st.fs = x.1 := by
  unfold finish
  split
  · rfl
  · split <;> rfl

theorem refine_ins (f : Fix) (c : Codec B R) (st : St B R) (call : Call B) :
    (refine f c st call).st.fs.ins = some (write f c (insMem st call)) := by
  rw [refine_eq, finish_fs, runShelxl_ins]

theorem write_insMem (f : Fix) (c : Codec B R) (st : St B R) (call : Call B) (hf : f.dow = true) :
    write f c (insMem st call) = c.text (insDoc st call) := by
  simp [write, hf, insMem_doc]

theorem write_insMem_legacy (f : Fix) (c : Codec B R) (st : St B R) (call : Call B) (hs : inSync st.mem = true) :
    write f c (insMem st call) = c.text (insDoc st call) := by
  -- with ACTA out, no recorded index is off: `removeActa` takes from `skew` exactly what `inSync` allows for
  have : ((insMem st call).dow && (insMem st call).skew != 0) = false := by
    rw [insMem_eq]
    cases hd : st.mem.dow
    · rfl
    · simp only [inSync, hd, Bool.not_true, Bool.false_or, beq_iff_eq] at hs
      rw [hs, Int.sub_self]
      rfl
  rw [write, Bool.and_assoc, this, Bool.and_false, insMem_doc]
  rfl

/-- the file handed to SHELXL is the current model without ACTA and with the requested number of cycles — for every
    object (any number of FVAR/SFAC/SYMM lines) and every combination of the C19 repairs. `hf`: the C04 repair is in the
    tree; with it no hypothesis on the state is needed. -/
theorem ins_is_model (f : Fix) (c : Codec B R) (st : St B R) (call : Call B) (hf : f.dow = true) :
    (refine f c st call).st.fs.ins = some (c.text (insDoc st call)) := by
  rw [refine_ins, write_insMem f c st call hf]

/-- the same for the code before the C04 repair, which needs `inSync` (`ins_is_model_orig_fails_on`) -/
theorem ins_is_model_legacy (f : Fix) (c : Codec B R) (st : St B R) (call : Call B)
    (hs : inSync st.mem = true) :
    (refine f c st call).st.fs.ins = some (c.text (insDoc st call)) := by
  rw [refine_ins, write_insMem_legacy f c st call hs]

/-- the codec of the witnesses and examples: files ≥ 50 have a second FVAR line (delete_on_write behind UNIT); odd files
    carry an ACTA line three lines behind UNIT -/
def wc : Codec Nat Nat where
  text d := 1000 + d.cycles.toNat + 100 * d.rest
  garbled _ := 7
  parse b := (⟨if b % 2 = 1 then some ⟨5, 3⟩ else none, 10, b⟩, decide (50 ≤ b))
  size b := b

/-- a freshly read file with ACTA (three lines behind UNIT) and two FVAR lines; stale backup 33 in the directory -/
def wSt : St Nat Nat :=
  ⟨⟨some 51, none, some 33, true, []⟩, ⟨⟨some ⟨5, 3⟩, 10, 51⟩, true, 0⟩⟩

/-- `wSt` without the second FVAR line (file 21 for 51, `dow` off) -/
def wSt' : St Nat Nat :=
  ⟨⟨some 21, none, some 33, true, []⟩, ⟨⟨some ⟨5, 3⟩, 10, 21⟩, false, 0⟩⟩

def good (b : Nat) : Outcome Nat := ⟨0, .wrote b, .good, .plain⟩

/-- C04_1 missing: ACTA is deleted from `_reslist`, `delete_on_write` still points one line further -/
theorem ins_is_model_orig_fails_on :
    ¬ ((refine { Fix.all with dow := false } wc wSt ⟨some 4, true, good 60⟩).st.fs.ins
        = some (wc.text (insDoc wSt ⟨some 4, true, good 60⟩))) := by
  decide

/-- the state the legacy code garbled (ACTA + second FVAR line, freshly read: not `inSync`) is covered by `ins_is_model` -/
example : (refine Fix.all wc wSt ⟨some 4, true, good 60⟩).st.fs.ins
    = some (wc.text (insDoc wSt ⟨some 4, true, good 60⟩)) ∧ inSync wSt.mem = false := by decide

/-- the code's own test for a failed run -/
def rejected (c : Codec B R) (pre : Option B) (o : Outcome B) : Bool :=
  match left pre o.res with
  | none => true
  | some b => o.exit != 0 || c.size b < 10 || o.con == .nohkl

theorem runShelxl_all (c : Codec B R) (fs : FS B) (call : Call B) :
    runShelxl Fix.all c fs call =
      if fs.hkl && (!call.backup || fs.res.isSome) then
        if rejected c fs.res call.out then
          ({ backedUp call.backup fs with
              res := if call.backup then fs.res else left fs.res call.out.res
              bak := if call.backup then none else fs.bak }, some .SystemExit)
        else ({ backedUp call.backup fs with res := left fs.res call.out.res }, none)
      else (fs, some .SystemExit) := by
  obtain ⟨res, ins, bak, hkl, saves⟩ := fs
  cases hkl <;> cases hb : call.backup <;> cases res
  -- the repairs switch the three early exits off; what is left of the code is the test `rejected`
  all_goals simp [runShelxl, backupStep, restoreStep, backedUp, rejected, Fix.all, hb]
  all_goals cases left _ call.out.res <;> simp

theorem rejected_eq_failed (c : Codec B R) (pre : Option B) (o : Outcome B) (hp : plausible c pre o = true) :
    rejected c pre o = failed c pre o := by
  revert hp
  unfold plausible failed rejected
  cases left pre o.res with
  | none => simp
  | some b =>
    intro hp
    rw [Bool.eq_iff_iff]
    simp only [Bool.and_eq_true, Bool.or_eq_true, beq_iff_eq, decide_eq_true_eq, bne_iff_ne, ne_eq] at hp ⊢
    -- `plausible` gives size `= 0 ∨ ≥ 10`, so the code's `< 10` is the property's `= 0`; `nohkl` only comes with a
    -- failed run, so the third test adds nothing
    by_cases he : o.exit = 0
    · by_cases hc : o.con = .nohkl
      · simp_all
      · simp only [he, hc, not_true, false_or, or_false]
        omega
    · simp [he]

/-- a run that failed is rejected whatever else the outcome says: `plausible` is needed for the converse only -/
theorem rejected_of_failed (c : Codec B R) (pre : Option B) (o : Outcome B) (hf : failed c pre o = true) :
    rejected c pre o = true := by
  unfold failed at hf
  unfold rejected
  cases h : left pre o.res with
  | none => rfl
  | some b =>
    simp only [h, Bool.or_eq_true, bne_iff_ne, ne_eq, beq_iff_eq] at hf
    simp only [Bool.or_eq_true, bne_iff_ne, ne_eq, decide_eq_true_eq]
    rcases hf with hf | hf
    · exact .inl (.inl hf)
    · exact .inl (.inr (by omega))

/-- the directory when `run_shelxl` is entered: the .ins is written -/
@[simp] def entry (c : Codec B R) (st : St B R) (call : Call B) : FS B :=
  { st.fs with ins := some (c.text (insDoc st call)) }

theorem refine_cases (c : Codec B R) (st : St B R) (call : Call B) :
    (started st call = false ∧
      refine Fix.all c st call =
        ⟨⟨entry c st call, restoreActa st.mem.doc.acta (insMem st call)⟩, some .SystemExit⟩) ∨
    (started st call = true ∧ rejected c st.fs.res call.out = true ∧
      refine Fix.all c st call =
        ⟨⟨{ backedUp call.backup (entry c st call) with
            res := if call.backup then st.fs.res else left st.fs.res call.out.res
            bak := if call.backup then none else st.fs.bak },
          restoreActa st.mem.doc.acta (insMem st call)⟩, some .SystemExit⟩) ∨
    ∃ b, started st call = true ∧ rejected c st.fs.res call.out = false ∧ left st.fs.res call.out.res = some b ∧
      refine Fix.all c st call =
        ⟨⟨{ backedUp call.backup (entry c st call) with res := some b },
          restoreActa st.mem.doc.acta ⟨(c.parse b).1, (c.parse b).2, 0⟩⟩, none⟩ := by
  rw [refine_eq, runShelxl_all, write_insMem Fix.all c st call rfl]
  unfold started
  dsimp only
  cases hs : (st.fs.hkl && (!call.backup || st.fs.res.isSome))
  · exact .inl ⟨rfl, rfl⟩
  · cases hr : rejected c st.fs.res call.out
    · -- an accepted run has left a result file
      cases hb : left st.fs.res call.out.res with
      | none => simp [rejected, hb] at hr
      | some b => exact .inr (.inr ⟨b, rfl, rfl, rfl, rfl⟩)
    · exact .inr (.inl ⟨rfl, rfl, rfl⟩)

/-- the document of the object a call that raises leaves behind -/
theorem kept_doc (st : St B R) (call : Call B) :
    (restoreActa st.mem.doc.acta (insMem st call)).doc =
      { insDoc st call with acta := st.mem.doc.acta.map fun a => ⟨a.text, 1⟩ } := by
  cases st.mem.doc.acta with
  | none => exact insMem_doc st call
  | some a => exact congrArg (fun d => { d with acta := some ⟨a.text, 1⟩ }) (insMem_doc st call)

theorem reloaded_eq (c : Codec B R) (st : St B R) (b : B) :
    (restoreActa st.mem.doc.acta ⟨(c.parse b).1, (c.parse b).2, 0⟩).doc = reloaded c st b := by
  unfold reloaded
  cases st.mem.doc.acta <;> rfl

theorem rejected_restores (c : Codec B R) (st : St B R) (call : Call B)
    (hb : call.backup = true) (hr : rejected c st.fs.res call.out = true) :
    (refine Fix.all c st call).st.fs.res = st.fs.res ∧ (refine Fix.all c st call).exc ≠ none := by
  rcases refine_cases c st call with ⟨_, h⟩ | ⟨_, _, h⟩ | ⟨b, _, hr', _⟩
  · rw [h]
    exact ⟨rfl, nofun⟩
  · rw [h, hb]
    exact ⟨rfl, nofun⟩
  · rw [hr] at hr'
    cases hr'

/-- with a backup, whenever the external run fails (non-zero exit, empty or missing result file; any .lst, any directory
    before) the previous .res is back, byte-identical, and the caller is told (an exception leaves `refine`). `hp` is not
    needed (`rejected_of_failed`). -/
theorem failure_restores (c : Codec B R) (st : St B R) (call : Call B)
    (hb : call.backup = true) (hp : plausible c st.fs.res call.out = true)
    (hf : failed c st.fs.res call.out = true) :
    (refine Fix.all c st call).st.fs.res = st.fs.res ∧ (refine Fix.all c st call).exc ≠ none :=
  rejected_restores c st call hb (rejected_of_failed c _ _ hf)

theorem failed_of_exit_ne_zero (c : Codec B R) (pre : Option B) (o : Outcome B) (h : o.exit ≠ 0) :
    failed c pre o = true := by
  simp [failed, h]

/-- SHELXL killed by a signal (`Popen.returncode` is then negative) or leaving with any positive code, with a partly
    written result of any size ≥ 10 bytes (or any other result state): with a backup the previous .res is back. -/
theorem nonzero_status_restores (c : Codec B R) (st : St B R) (call : Call B)
    (hb : call.backup = true) (hp : plausible c st.fs.res call.out = true) (he : call.out.exit ≠ 0) :
    (refine Fix.all c st call).st.fs.res = st.fs.res ∧ (refine Fix.all c st call).exc ≠ none :=
  failure_restores c st call hb hp (failed_of_exit_ne_zero c _ _ he)

/-- segmentation fault (−11) after a 60-byte result was written; exit code 255 likewise -/
example : plausible wc wSt.fs.res ⟨-11, .wrote 60, .good, .plain⟩ = true ∧
    (refine Fix.all wc wSt ⟨some 4, true, ⟨-11, .wrote 60, .good, .plain⟩⟩).st.fs.res = wSt.fs.res ∧
    (refine Fix.all wc wSt ⟨some 4, true, ⟨255, .wrote 60, .missing, .plain⟩⟩).st.fs.res = wSt.fs.res ∧
    (refine Fix.all wc wSt ⟨some 4, true, ⟨-11, .wrote 60, .good, .plain⟩⟩).st.mem.doc.rest = wSt.mem.doc.rest := by decide

/-- the hypotheses of `failure_restores` met with exit status 0: the run removed the result file -/
example : (wSt.fs.res.isSome ∧ failed wc wSt.fs.res ⟨0, .removed, .raises, .plain⟩ ∧
    plausible wc wSt.fs.res ⟨0, .removed, .raises, .plain⟩) := by decide

/-- a run that did not fail returns normally, leaves SHELXL's result in .res, and the object is the parse of that file
    with the user's ACTA directly after UNIT. -/
theorem success_reloads (c : Codec B R) (st : St B R) (call : Call B)
    (hst : started st call = true) (hp : plausible c st.fs.res call.out = true)
    (hf : failed c st.fs.res call.out = false) :
    ∃ b, left st.fs.res call.out.res = some b ∧
      (refine Fix.all c st call).exc = none ∧
      (refine Fix.all c st call).st.fs.res = some b ∧
      (refine Fix.all c st call).st.mem.doc = reloaded c st b := by
  rw [← rejected_eq_failed c _ _ hp] at hf
  rcases refine_cases c st call with ⟨hs, _⟩ | ⟨_, hr, _⟩ | ⟨b, _, _, hb, h⟩
  · rw [hst] at hs
    cases hs
  · rw [hf] at hr
    cases hr
  · rw [h]
    exact ⟨b, hb, rfl, rfl, reloaded_eq c st b⟩

/-- in every row of the table the object is `restoreActa (some a) _` -/
theorem acta_kept (c : Codec B R) (st : St B R) (call : Call B) (a : Acta) (ha : st.mem.doc.acta = some a) :
    (refine Fix.all c st call).st.mem.doc.acta = some ⟨a.text, 1⟩ := by
  rcases refine_cases c st call with ⟨_, h⟩ | ⟨_, _, h⟩ | ⟨b, _, _, _, h⟩
  all_goals
    rw [h, ha]
    rfl

/-- ACTA is back at its place after UNIT (a case of `acta_kept`, which needs none of the three hypotheses) -/
theorem acta_after_unit (c : Codec B R) (st : St B R) (call : Call B) (a : Acta)
    (ha : st.mem.doc.acta = some a)
    (hst : started st call = true) (hp : plausible c st.fs.res call.out = true)
    (hf : failed c st.fs.res call.out = false) :
    (refine Fix.all c st call).st.mem.doc.acta = some ⟨a.text, 1⟩ :=
  acta_kept c st call a ha

/-- the hypotheses of `success_reloads` met, by a result whose parse is not the document in memory: the reload shows -/
example : started wSt ⟨some 4, true, good 60⟩ = true ∧ plausible wc wSt.fs.res (good 60) = true ∧
    failed wc wSt.fs.res (good 60) = false ∧ (wc.parse 60).1 ≠ wSt.mem.doc := by decide

/-- after any call — backup or not, success or not, any directory state including an old <name>.shx-bak — .res is the
    pre-run content or what SHELXL left, never anything else. -/
theorem no_stale_restore (c : Codec B R) (st : St B R) (call : Call B) :
    (refine Fix.all c st call).st.fs.res = st.fs.res ∨
    (refine Fix.all c st call).st.fs.res = left st.fs.res call.out.res := by
  rcases refine_cases c st call with ⟨_, h⟩ | ⟨_, _, h⟩ | ⟨b, _, _, hb, h⟩
  · rw [h]
    exact .inl rfl
  · rw [h]
    cases call.backup
    · exact .inr rfl
    · exact .inl rfl
  · rw [h, hb]
    exact .inr rfl

/-- whenever an exception leaves `refine`, the object still has everything but ACTA untouched, and has an ACTA (the same
    text) iff it had one. -/
theorem failure_keeps_model (c : Codec B R) (st : St B R) (call : Call B)
    (he : (refine Fix.all c st call).exc ≠ none) :
    (refine Fix.all c st call).st.mem.doc.rest = st.mem.doc.rest ∧
    (∀ a, st.mem.doc.acta = some a → (refine Fix.all c st call).st.mem.doc.acta = some ⟨a.text, 1⟩) ∧
    (st.mem.doc.acta = none → (refine Fix.all c st call).st.mem.doc.acta = none) := by
  -- both kinds of call that raise leave the same object
  have hm : (refine Fix.all c st call).st.mem = restoreActa st.mem.doc.acta (insMem st call) := by
    rcases refine_cases c st call with ⟨_, h⟩ | ⟨_, _, h⟩ | ⟨b, _, _, _, h⟩
    · rw [h]
    · rw [h]
    · rw [h] at he
      exact absurd rfl he
  rw [hm, kept_doc]
  cases st.mem.doc.acta <;> simp [insDoc]

/-- a crash with the backup switched off and an old backup file lying around -/
example : (refine Fix.all wc wSt ⟨some 4, false, ⟨1, .wrote 0, .good, .plain⟩⟩).exc ≠ none ∧
    (refine Fix.all wc wSt ⟨some 4, false, ⟨1, .wrote 0, .good, .plain⟩⟩).st.fs.res = some 0 ∧
    (refine Fix.all wc wSt ⟨some 4, false, ⟨1, .wrote 0, .good, .plain⟩⟩).st.mem.doc.acta = some ⟨5, 1⟩ := by decide

theorem specMem_raised [DecidableEq R] (c : Codec B R) (st : St B R) (call : Call B) (fs : FS B) (e : PyErr)
    (h : (started st call && !failed c st.fs.res call.out) = false) :
    specMem c st call ⟨⟨fs, restoreActa st.mem.doc.acta (insMem st call)⟩, some e⟩ = true := by
  rw [specMem, h]
  simp only [kept_doc]
  cases st.mem.doc.acta <;> simp [insDoc]

theorem specMem_reloaded [DecidableEq R] (c : Codec B R) (st : St B R) (call : Call B) (fs : FS B) (b : B)
    (hs : started st call = true) (hf : failed c st.fs.res call.out = false)
    (hb : left st.fs.res call.out.res = some b) :
    specMem c st call ⟨⟨fs, restoreActa st.mem.doc.acta ⟨(c.parse b).1, (c.parse b).2, 0⟩⟩, none⟩ = true := by
  simp [specMem, hs, hf, hb, reloaded_eq]

theorem refine_meets_spec [DecidableEq B] [DecidableEq R] (c : Codec B R) (st : St B R) (call : Call B)
    (hp : plausible c st.fs.res call.out = true) :
    specStep c st call (refine Fix.all c st call) = true := by
  have hf := (rejected_eq_failed c _ _ hp).symm
  unfold specStep specIns specRes specBak
  rcases refine_cases c st call with ⟨hs, h⟩ | ⟨hs, hr, h⟩ | ⟨b, hs, hr, hb, h⟩
  · -- not started
    simp [h, hs, specMem_raised]
  · -- rejected
    rw [hr] at hf
    cases hbk : call.backup
    · simp [h, hs, hf, hbk, backedUp, specMem_raised]
    · -- a backup that was asked for and taken is a copy of a file that was there
      cases hr0 : st.fs.res with
      | none => simp [started, hbk, hr0] at hs
      | some r =>
        rw [hr0] at hf
        simp [h, hs, hf, hbk, hr0, backedUp, specMem_raised]
  · -- accepted
    rw [hr] at hf
    cases hbk : call.backup
    · simp [h, hs, hf, hbk, hb, backedUp, specMem_reloaded]
    · cases hr0 : st.fs.res with
      | none => simp [started, hbk, hr0] at hs
      | some r =>
        rw [hr0] at hf hb
        simp [h, hs, hf, hbk, hr0, hb, backedUp, specMem_reloaded]

example : plausible wc wSt.fs.res (good 60) = true ∧
    specStep wc wSt ⟨some 4, true, good 60⟩ (refine Fix.all wc wSt ⟨some 4, true, good 60⟩) = true := by decide

/-- over any sequence of `refine()` calls (the caller catching what is raised), every call meets the specification with
    respect to the state the previous call left. -/
theorem history_meets_spec [DecidableEq B] [DecidableEq R] (c : Codec B R) (calls : List (Call B)) :
    ∀ st : St B R, history c st calls = true →
      traceSpec c st (trace Fix.all c st calls) = true := by
  intro st
  fun_induction trace Fix.all c st calls with
  | case1 => intro _; rfl
  | case2 st call t ih =>
    intro hh
    simp only [history, Bool.and_eq_true] at hh
    simp only [traceSpec, Bool.and_eq_true]
    exact ⟨refine_meets_spec c st call hh.1, ih hh.2⟩

/-- histories in which the user re-reads the model between calls (`reload()`, `read_file()` of a rewritten file — with
    or without ACTA, with another ACTA): every call meets the specification with respect to the model as it is right
    before that call. -/
theorem steps_meet_spec [DecidableEq B] [DecidableEq R] (c : Codec B R) (steps : List (Step B)) :
    ∀ st : St B R, stepsPlausible c st steps = true →
      ∀ e ∈ traceSteps Fix.all c st steps, specStep c e.1 e.2.1 e.2.2 = true := by
  intro st
  fun_induction traceSteps Fix.all c st steps with
  | case1 => intro _ e he; cases he
  | case2 st k t ih =>
    intro hp e he
    simp only [stepsPlausible, Bool.and_eq_true] at hp
    rcases List.mem_cons.mp he with rfl | he
    · exact refine_meets_spec c st k hp.1
    · exact ih hp.2 e he
  | case3 st w t st' hl ih =>
    intro hp
    simp only [stepsPlausible, hl] at hp
    exact ih hp
  | case4 => intro _ e he; cases he

/-- a model without ACTA has none after the call either, unless the result file SHELXL left carries one — whatever
    earlier calls on the same object took out of earlier models. (`hp` is not needed.) -/
theorem no_acta_from_nowhere (c : Codec B R) (st : St B R) (call : Call B)
    (hp : plausible c st.fs.res call.out = true) (ha : st.mem.doc.acta = none) :
    (refine Fix.all c st call).st.mem.doc.acta = none ∨
    ∃ b, left st.fs.res call.out.res = some b ∧ (refine Fix.all c st call).st.mem.doc.acta = (c.parse b).1.acta := by
  rcases refine_cases c st call with ⟨_, h⟩ | ⟨_, _, h⟩ | ⟨b, _, _, hb, h⟩
  all_goals rw [h, ha]
  -- no card was saved: the object is the one the .ins was written from, or the parse of the result
  · exact .inl (removeActa_eq _).1
  · exact .inl (removeActa_eq _).1
  · exact .inr ⟨b, hb, rfl⟩

/-- good run of a model with ACTA, re-read of the ACTA-free result, crash, re-read of a file with ACTA, good run -/
def wSteps : List (Step Nat) :=
  [.call ⟨some 4, true, good 60⟩, .load none, .call ⟨none, true, ⟨-9, .wrote 30, .missing, .plain⟩⟩, .load (some 71),
   .call ⟨some 2, false, good 80⟩]

example : stepsPlausible wc wSt wSteps = true ∧ (traceSteps Fix.all wc wSt wSteps).length = 3 ∧
    (traceSteps Fix.all wc wSt wSteps).map (fun e => (e.1.mem.doc.acta, e.2.2.st.mem.doc.acta)) =
      [(some ⟨5, 3⟩, some ⟨5, 1⟩), (none, none), (some ⟨5, 3⟩, some ⟨5, 1⟩)] := by decide

def allBackup : List (Call B) → Bool
  | [] => true
  | call :: t => call.backup && allBackup t

/-- `plausible` at every call, for the .res that call finds by `lastGood`'s recursion, not by running `refine` as
    `history` does: the hypothesis of `res_is_last_success` does not mention the code -/
def allPlausible (c : Codec B R) : Option B → List (Call B) → Bool
  | _, [] => true
  | r0, call :: t =>
    plausible c r0 call.out && allPlausible c (if failed c r0 call.out then r0 else left r0 call.out.res) t

theorem backup_step (c : Codec B R) (st : St B R) (call : Call B) (hh : st.fs.hkl = true)
    (hr : st.fs.res.isSome = true) (hb : call.backup = true) (hp : plausible c st.fs.res call.out = true) :
    (refine Fix.all c st call).st.fs.hkl = true ∧ (refine Fix.all c st call).st.fs.res.isSome = true ∧
    (refine Fix.all c st call).st.fs.res =
      if failed c st.fs.res call.out then st.fs.res else left st.fs.res call.out.res := by
  rw [← rejected_eq_failed c _ _ hp]
  rcases refine_cases c st call with ⟨hs, _⟩ | ⟨_, hj, h⟩ | ⟨b, _, hj, hl, h⟩
  · simp [started, hh, hr] at hs
  · rw [h, hj, hb]
    exact ⟨hh, hr, rfl⟩
  · rw [h, hj, hl]
    exact ⟨hh, rfl, rfl⟩

/-- when every call takes its backup, then after any history the user's .res is the result of the last successful run,
    or the file he started with — nothing is ever lost. -/
theorem res_is_last_success (c : Codec B R) (calls : List (Call B)) :
    ∀ st : St B R, st.fs.hkl = true → st.fs.res.isSome = true → allBackup calls = true →
      allPlausible c st.fs.res calls = true →
      (run Fix.all c st calls).fs.res = lastGood c st.fs.res calls := by
  intro st
  fun_induction run Fix.all c st calls with
  | case1 => intro _ _ _ _; rfl
  | case2 st call t ih =>
    intro hh hr hb hp
    simp only [allBackup, Bool.and_eq_true] at hb
    simp only [allPlausible, Bool.and_eq_true] at hp
    obtain ⟨hh', hr', hres⟩ := backup_step c st call hh hr hb.1 hp.1
    rw [lastGood, ← hres]
    exact ih hh' hr' hb.2 (hres ▸ hp.2)

/-- an object that has an ACTA card has one (the same) after any history of calls — no hypothesis on outcomes, directory
    or backup flag. -/
theorem acta_survives_history (c : Codec B R) (calls : List (Call B)) :
    ∀ (st : St B R) (a : Acta), st.mem.doc.acta = some a →
      ∃ a', (run Fix.all c st calls).mem.doc.acta = some a' ∧ a'.text = a.text := by
  intro st
  fun_induction run Fix.all c st calls with
  | case1 st => exact fun a ha => ⟨a, ha, rfl⟩
  | case2 st call t ih => exact fun a ha => ih ⟨a.text, 1⟩ (acta_kept c st call a ha)

/-- a three-call history (good run, crash that removes the result, good run) inside all hypotheses -/
def wCalls : List (Call Nat) :=
  [⟨some 4, true, good 60⟩, ⟨none, true, ⟨1, .removed, .raises, .plain⟩⟩, ⟨some 2, true, ⟨0, .wrote 70, .missing, .plain⟩⟩]

example : history wc wSt wCalls = true ∧ allBackup wCalls = true ∧
    allPlausible wc wSt.fs.res wCalls = true ∧ lastGood wc wSt.fs.res wCalls = some 70 := by decide

/-- whatever the display filter does with the program's output short of 'cannot open hkl' — including raising (a byte
    that is not UTF-8, a line cut short) — and whatever the list file looks like, `refine` does exactly what it does for
    a plain banner and a well-formed list file: same files, same object, same way of ending. -/
theorem output_cannot_abort (c : Codec B R) (st : St B R) (cycles : Option Int) (backup : Bool)
    (exit : Int) (ro : ResOut B) (lst : LstOut) (con : ConOut) (hc : con ≠ .nohkl) :
    refine Fix.all c st ⟨cycles, backup, ⟨exit, ro, lst, con⟩⟩ =
    refine Fix.all c st ⟨cycles, backup, ⟨exit, ro, .good, .plain⟩⟩ := by
  have key : ∀ fs : FS B, runShelxl Fix.all c fs ⟨cycles, backup, ⟨exit, ro, lst, con⟩⟩ =
      runShelxl Fix.all c fs ⟨cycles, backup, ⟨exit, ro, .good, .plain⟩⟩ := by
    intro fs
    rw [runShelxl_all, runShelxl_all]
    -- the table looks at the outcome through `rejected` only, and `rejected` at `con` only for 'cannot open hkl'
    cases con <;> first | rfl | exact absurd rfl hc
  show finish _ _ _ _ (runShelxl _ _ _ _) = finish _ _ _ _ (runShelxl _ _ _ _)
  rw [key]

/-- the split into failed / succeeded does not look at the output or the list file either -/
theorem failed_indep (c : Codec B R) (pre : Option B) (exit : Int) (ro : ResOut B) (lst : LstOut) (con : ConOut) :
    failed c pre ⟨exit, ro, lst, con⟩ = failed c pre ⟨exit, ro, .good, .plain⟩ := rfl

/-- SHELXL reports that it cannot open the reflection file: the call ends with an exception and, with a backup, the
    previous .res is back — whatever the status and the result file are (no `plausible`). -/
theorem nohkl_restores (c : Codec B R) (st : St B R) (call : Call B)
    (hc : call.out.con = .nohkl) (hb : call.backup = true) :
    (refine Fix.all c st call).st.fs.res = st.fs.res ∧ (refine Fix.all c st call).exc ≠ none := by
  apply rejected_restores c st call hb
  unfold rejected
  split
  · rfl
  · simp [hc]

/-- inside the hypothesis: 'cannot open hkl' with status 1 and no new result … -/
example : plausible wc wSt.fs.res ⟨1, .untouched, .missing, .nohkl⟩ = true ∧
    failed wc wSt.fs.res ⟨1, .untouched, .missing, .nohkl⟩ = true := by decide

/-- … and the point `plausible` excludes: the same report together with status 0 and a fresh result of 60 bytes — a success
    by the wording of the property, a failure for the code (previous file back, exception) -/
example : plausible wc wSt.fs.res ⟨0, .wrote 60, .good, .nohkl⟩ = false ∧
    (refine Fix.all wc wSt ⟨some 4, true, ⟨0, .wrote 60, .good, .nohkl⟩⟩).st.fs.res = wSt.fs.res ∧
    (refine Fix.all wc wSt ⟨some 4, true, ⟨0, .wrote 60, .good, .nohkl⟩⟩).exc = some .SystemExit := by decide

/-- C19_1: result file missing → `os.stat` raises before the restore: the previous .res is not back -/
theorem failure_restores_orig_fails_on_missing_res :
    ¬ ((refine { Fix.all with stat := false } wc wSt' ⟨some 4, true, ⟨0, .removed, .good, .plain⟩⟩).st.fs.res = wSt'.fs.res) := by
  decide

/-- C19_2: malformed .lst → IndexError before the status is looked at: a crashed run is not rolled back … -/
theorem failure_restores_orig_fails_on_bad_lst :
    ¬ ((refine { Fix.all with lst := false } wc wSt' ⟨some 4, true, ⟨1, .wrote 0, .raises, .plain⟩⟩).st.fs.res = wSt'.fs.res) := by
  decide

/-- … and a good run is not reloaded (the object is the old one, without its ACTA) -/
theorem success_reloads_orig_fails_on_bad_lst :
    ¬ ((refine { Fix.all with lst := false } wc wSt' ⟨some 4, true, ⟨0, .wrote 60, .raises, .plain⟩⟩).st.mem.doc
        = reloaded wc wSt' 60) := by
  decide

/-- C19_3: backup off, old <name>.shx-bak (33) in the directory → it is copied over what SHELXL left -/
theorem no_stale_restore_orig_fails_on :
    ¬ ((refine { Fix.all with stale := false } wc wSt' ⟨some 4, false, ⟨1, .wrote 0, .good, .plain⟩⟩).st.fs.res = wSt'.fs.res ∨
       (refine { Fix.all with stale := false } wc wSt' ⟨some 4, false, ⟨1, .wrote 0, .good, .plain⟩⟩).st.fs.res = some 0) := by
  decide

/-- the same through the code's own backup: a good run with backup (21 saved, result 60), then a crash with backup off
    that leaves 0: .res is the first call's backup 21, neither the 60 the second call found nor the 0 SHELXL left -/
theorem no_stale_restore_orig_fails_on_history :
    (run { Fix.all with stale := false } wc wSt' [⟨some 4, true, good 60⟩, ⟨none, false, ⟨1, .wrote 0, .good, .plain⟩⟩]).fs.res
      = some 21 := by
  decide

/-- C19_4: a failed run and then a good one: the user's ACTA is gone for good -/
theorem acta_survives_orig_fails_on :
    (run { Fix.all with acta := false } wc wSt' [⟨some 4, true, ⟨1, .wrote 0, .good, .plain⟩⟩, ⟨none, true, good 60⟩]).mem.doc.acta
      = none := by
  decide

/-- C19_5: SHELXL prints a byte that is not UTF-8 (or a line the display filter chokes on) and crashes: the exception
    leaves the reading loop before the status is looked at — the emptied result is not rolled back … -/
theorem failure_restores_orig_fails_on_output :
    ¬ ((refine { Fix.all with con := false } wc wSt' ⟨some 4, true, ⟨1, .wrote 0, .good, .raises⟩⟩).st.fs.res
        = wSt'.fs.res) := by
  decide

/-- … and a good run is not reloaded -/
theorem success_reloads_orig_fails_on_output :
    ¬ ((refine { Fix.all with con := false } wc wSt' ⟨some 4, true, ⟨0, .wrote 60, .good, .raises⟩⟩).st.mem.doc
        = reloaded wc wSt' 60) := by
  decide

/-- C19_5, 'CANNOT OPEN FILE …hkl': the filter left with `sys.exit()` on the spot, the backup was never copied back -/
theorem failure_restores_orig_fails_on_nohkl :
    ¬ ((refine { Fix.all with con := false } wc wSt' ⟨some 4, true, ⟨1, .wrote 0, .good, .nohkl⟩⟩).st.fs.res
        = wSt'.fs.res) := by
  decide

/-- all of them together, the tree as found: result removed with exit 0 → FileNotFoundError, file lost, ACTA lost -/
theorem orig_loses_model :
    (refine Fix.none wc wSt' ⟨some 4, true, ⟨0, .removed, .good, .plain⟩⟩).st.fs.res = none ∧
    (refine Fix.none wc wSt' ⟨some 4, true, ⟨0, .removed, .good, .plain⟩⟩).exc = some .FileNotFoundError ∧
    (refine Fix.none wc wSt' ⟨some 4, true, ⟨0, .removed, .good, .plain⟩⟩).st.mem.doc.acta = none := by
  decide

section Lines
variable {T : Type}

def actaFree (l : List (Line T)) : Bool := l.all fun x => !x.isActa

def hasUnit (l : List (Line T)) : Bool := l.any Line.isUnit

def countActa (l : List (Line T)) : Nat := (l.filter Line.isActa).length

@[simp] theorem sansActa_cons (x : Line T) (t : List (Line T)) :
    sansActa (x :: t) = if x.isActa then sansActa t else x :: sansActa t := by
  cases x <;> rfl

@[simp] theorem countActa_cons (x : Line T) (t : List (Line T)) :
    countActa (x :: t) = countActa t + if x.isActa then 1 else 0 := by
  cases x <;> rfl

@[simp] theorem squeeze_cons (x : Line T) (t : List (Line T)) :
    squeeze (x :: t) = if x.isGap then squeeze t else x :: squeeze t := by
  cases x <;> rfl

@[simp] theorem actaFree_cons (x : Line T) (t : List (Line T)) :
    actaFree (x :: t) = (!x.isActa && actaFree t) := rfl

@[simp] theorem hasUnit_cons (x : Line T) (t : List (Line T)) :
    hasUnit (x :: t) = (x.isUnit || hasUnit t) := rfl

theorem putActa_isSome (n : Nat) (l : List (Line T)) : (putActa n l).isSome = hasUnit l := by
  induction l with
  | nil => rfl
  | cons x t ih => cases x <;> simp_all [putActa]

theorem putActa_next (n : Nat) (l l' : List (Line T)) (h : putActa n l = some l') :
    afterUnit l' = some (.acta n) := by
  induction l generalizing l' with
  | nil => cases h
  | cons x t ih =>
    cases x
    case unit =>
      cases h
      rfl
    all_goals
      obtain ⟨t', ht, rfl⟩ := Option.map_eq_some_iff.mp h
      exact ih t' ht

theorem putActa_rest (n : Nat) (l l' : List (Line T)) (h : putActa n l = some l') :
    sansActa l' = sansActa l ∧ countActa l' = countActa l + 1 := by
  induction l generalizing l' with
  | nil => cases h
  | cons x t ih =>
    cases x
    case unit =>
      cases h
      simp
    all_goals
      obtain ⟨t', ht, rfl⟩ := Option.map_eq_some_iff.mp h
      simp [ih t' ht]

/-- by index: `index_of(acta) − index_of(unit) = 1` -/
theorem putActa_docActa (n : Nat) (l l' : List (Line T)) (hfree : actaFree l = true) (h : putActa n l = some l') :
    docActa l' = some ⟨n, 1⟩ := by
  have key : ∃ u, idxOf Line.isUnit l' = some u ∧ idxOf Line.isActa l' = some (u + 1) ∧ actaText l' = some n := by
    induction l generalizing l' with
    | nil => cases h
    | cons x t ih =>
      cases x
      case unit =>
        cases h
        exact ⟨0, rfl, rfl, rfl⟩
      case acta => cases hfree
      all_goals
        obtain ⟨t', ht, rfl⟩ := Option.map_eq_some_iff.mp h
        obtain ⟨u, h1, h2, h3⟩ := ih t' hfree ht
        exact ⟨u + 1, by simp [idxOf, h1], by simp [idxOf, h2], h3⟩
  obtain ⟨u, h1, h2, h3⟩ := key
  simp only [docActa, h1, h2, h3]
  congr 2
  omega

/-- in the written file the ACTA line follows the UNIT line whatever placeholders the list holds -/
theorem putActa_squeeze (n : Nat) (l : List (Line T)) :
    (putActa n l).map squeeze = putActa n (squeeze l) := by
  induction l with
  | nil => rfl
  | cons x t ih =>
    cases x <;> simp [putActa, ← ih, Function.comp_def]

theorem actaText_eq_none (l : List (Line T)) : actaText l = none ↔ actaFree l = true := by
  induction l with
  | nil => simp [actaText, actaFree]
  | cons x t ih => cases x <;> simp [actaText, ih]

theorem sansActa_of_count (l : List (Line T)) (h : countActa l = 0) : sansActa l = l := by
  simpa [sansActa, countActa, List.filter_eq_nil_iff] using h

theorem delActa_sans (l : List (Line T)) (h : countActa l ≤ 1) : delActa l = sansActa l := by
  induction l with
  | nil => rfl
  | cons x t ih =>
    cases x
    case acta => exact (sansActa_of_count t (by simpa using h)).symm
    all_goals exact congrArg _ (ih (by simpa using h))

theorem delActa_free (l : List (Line T)) (h : countActa l ≤ 1) : actaFree (delActa l) = true := by
  rw [delActa_sans l h]
  simp [actaFree, sansActa]

theorem delActa_hasUnit (l : List (Line T)) : hasUnit (delActa l) = hasUnit l := by
  induction l with
  | nil => rfl
  | cons x t ih => cases x <;> simp_all [delActa]

theorem putUser_spec [DecidableEq T] (user : Option Nat) (base : List (Line T)) (hfree : actaFree base = true)
    (hu : user ≠ none → hasUnit base = true) :
    ∃ l', putUser user base = some l' ∧
      specLines user base l' = true ∧ (∀ n, user = some n → docActa l' = some ⟨n, 1⟩) := by
  cases user with
  | none => exact ⟨base, rfl, by simp [specLines], nofun⟩
  | some n =>
    obtain ⟨l', hl'⟩ := Option.isSome_iff_exists.mp ((putActa_isSome n base).trans (hu nofun))
    have hr := putActa_rest n base l' hl'
    refine ⟨l', hl', ?_, fun m hm => ?_⟩
    · simpa [specLines, putActa_next n base l' hl', hr.1, countActa] using hr.2
    · cases hm
      exact putActa_docActa n base l' hfree hl'

/-- for every list the object held before the call (blank lines, continuation lines, absorbed lines anywhere, ACTA
    anywhere) and every list the reload builds from the new result (no ACTA: the .ins had none; a UNIT line), the list
    in memory after a good run is the new one with exactly the user's ACTA card directly after UNIT (by entry and by
    index). The two lists need have nothing in common: no position is carried from one to the other. -/
theorem lines_after_good_run [DecidableEq T] (l ln : List (Line T))
    (hfree : actaFree ln = true) (hu : hasUnit ln = true) :
    ∃ l', linesAfter l (some ln) = some l' ∧ specLines (actaText l) ln l' = true ∧
      (∀ n, actaText l = some n → docActa l' = some ⟨n, 1⟩) :=
  putUser_spec (actaText l) ln hfree (fun _ => hu)

/-- a call that raised leaves the lines the object had, its ACTA card directly after UNIT -/
theorem lines_after_failed_run [DecidableEq T] (l : List (Line T)) (h1 : countActa l ≤ 1) (hu : hasUnit l = true) :
    ∃ l', linesAfter l none = some l' ∧ specLines (actaText l) (sansActa l) l' = true ∧
      (∀ n, actaText l = some n → docActa l' = some ⟨n, 1⟩) := by
  rw [← delActa_sans l h1]
  exact putUser_spec (actaText l) (delActa l) (delActa_free l h1) (fun _ => (delActa_hasUnit l).trans hu)

/-- a file as users have them: blank line between ZERR and LATT, SFAC continued over two lines, ACTA three entries behind
    UNIT; the result SHELXL derives from the .ins has none of the placeholders and lines of its own after TITL -/
def wLines : List (Line Nat) :=
  [.other 0, .other 1, .other 2, .gap, .other 3, .other 4, .gap, .unit, .other 5, .other 6, .acta 7, .other 8]
def wNew : List (Line Nat) :=
  [.other 0, .other 20, .other 21, .other 1, .other 2, .other 3, .other 4, .unit, .other 5, .other 6, .other 8, .other 9]

example : countActa wLines ≤ 1 ∧ actaFree wNew = true ∧ hasUnit wNew = true ∧ hasUnit wLines = true ∧
    docActa wLines = some ⟨7, 3⟩ ∧
    linesAfter wLines (some wNew) = some [.other 0, .other 20, .other 21, .other 1, .other 2, .other 3, .other 4, .unit,
      .acta 7, .other 5, .other 6, .other 8, .other 9] := by decide

/-- a position remembered from the list before the run (UNIT + 1 there, once ACTA is out) is the wrong place in the list
    after the reload whenever an entry above UNIT was not written back: ACTA lands one line too low for each such entry -/
theorem stale_position_fails_on :
    (idxOf Line.isUnit (delActa wLines)).map (· + 1) = some 8 ∧
    docActa (putAt 8 7 (squeeze (delActa wLines))) = some ⟨7, 3⟩ ∧
    afterUnit (putAt 8 7 (squeeze (delActa wLines))) ≠ some (.acta 7) := by decide

theorem idxOf_isSome (p : Line T → Bool) (l : List (Line T)) : (idxOf p l).isSome = l.any p := by
  induction l with
  | nil => rfl
  | cons x t ih => by_cases hx : p x = true <;> simp_all [idxOf]

/-- `hu`: without a UNIT line `docActa l` is `none`, whatever `shx.acta` says -/
theorem docActa_map_text (l : List (Line T)) (hu : hasUnit l = true) : (docActa l).map (·.text) = actaText l := by
  obtain ⟨u, hq⟩ := Option.isSome_iff_exists.mp ((idxOf_isSome Line.isUnit l).trans hu)
  cases ht : actaText l with
  | none => simp [docActa, ht]
  | some n =>
    have hi : l.any Line.isActa = true := by
      have := mt (actaText_eq_none l).mpr (by simp [ht])
      simpa [actaFree] using this
    obtain ⟨i, hi⟩ := Option.isSome_iff_exists.mp ((idxOf_isSome Line.isActa l).trans hi)
    simp [docActa, ht, hi, hq]

/-- the abstract model's ACTA (`Doc.acta`, a text and an offset) is the list-level one. Taking the card out:
    `removeActa` on the document is `delActa` on any line list that shows the same ACTA … -/
theorem removeActa_lines (l : List (Line T)) (m : Mem R) (h1 : countActa l ≤ 1) (hu : hasUnit l = true)
    (hrep : docActa l = m.doc.acta) :
    docActa (delActa l) = (removeActa m).1.doc.acta ∧ actaText l = (removeActa m).2.map (·.text) := by
  rw [(removeActa_eq m).1, (removeActa_eq m).2, ← hrep, docActa_map_text l hu]
  exact ⟨by simp [docActa, (actaText_eq_none _).mpr (delActa_free l h1)], rfl⟩

/-- … and putting it back: `restoreActa`'s `off := 1` is `putActa` on any ACTA-free list with a UNIT line — the list of
    before the run (a run that did not complete) or the list the reload built, whatever their lengths -/
theorem restoreActa_lines (l l' : List (Line T)) (m : Mem R) (a : Acta) (hfree : actaFree l = true)
    (h : putActa a.text l = some l') :
    docActa l' = (restoreActa (some a) m).doc.acta :=
  putActa_docActa a.text l l' hfree h

end Lines

end Shelx.C19
