/-
  Refinement of the index-based editing code to an abstract list of logical lines, for all states with `Clean`
  (the invariant of the repaired code), all operations and all finite histories. The edits directed at an object
  are, on both levels, a splice at the first entry that is (prints as) the object: `SplicesFirst`, which
  `indexOf_splice` carries through the writer. Under the scheme with absolute indices the parsed file is `Marked`
  (`loadAbs_marked`) and is written as its entries that were not absorbed (`written_of_marked`); the first insertion in
  front of an absorbed entry breaks it (`dow_breaks`).
-/
import ShelxModel.C04
import ShelxModel.Extracted.C04Scheme

namespace Shelx.C04

variable {τ : Type} [DecidableEq τ]
-- `[DecidableEq τ]` (for `indexOf`: is this entry the object) goes into every statement about `τ`, used there or not
set_option linter.unusedSectionVars false

/-- Nothing is remembered by absolute index. The only hypothesis of the refinement theorems, and needed:
    `dow_breaks` (on the code before the repair: `add_line(0, …)` on a file with two SFAC lines). The repaired
    parser never fills `delete_on_write` (`load_clean`, `extracted_scheme_is_load`) and no edit does (`step_dow`);
    a caller who adds indices to the public attribute by hand is outside the theorem. -/
def Clean (s : St τ) : Prop := s.dow = []

instance (s : St τ) : Decidable (Clean s) := by unfold Clean; infer_instance

/-- the writer is a `filterMap` by any `f` that agrees with "skip the indices in `dow`, else `vis`" on the entries at hand:
    `vis` itself when `dow = []` (`written_nil`), `visKept` when `dow` lists the absorbed entries (`written_of_marked`) -/
theorem writtenFrom_eq {f : Item τ → Option (Line τ)} {h : Nat → List τ} {dow : List Nat} {k : Nat}
    {r : List (Item τ)} (hf : ∀ i it, r[i]? = some it → f it = if k + i ∈ dow then none else vis h it) :
    writtenFrom h dow k r = r.filterMap f := by
  induction r generalizing k with
  | nil => rfl
  | cons it r ih =>
    have tail : writtenFrom h dow (k + 1) r = r.filterMap f :=
      ih fun i it' hi => by rw [Nat.add_assoc, Nat.add_comm 1]; exact hf (i + 1) it' hi
    rw [writtenFrom, tail, List.filterMap_cons, hf 0 it rfl]
    by_cases hk : k ∈ dow
    · simp [hk]
    · cases vis h it <;> simp [hk]

theorem written_nil (r : List (Item τ)) (h : Nat → List τ) : written ⟨r, [], h⟩ = r.filterMap (vis h) :=
  writtenFrom_eq fun _ _ _ => by simp

/-- `F` puts `g x` in place of the first `x` with `p x`, and is `none` if there is no such `x` -/
structure SplicesFirst {α : Type} (p : α → Prop) [DecidablePred p] (g : α → List α)
    (F : List α → Option (List α)) : Prop where
  nil : F [] = none
  cons : ∀ x r, F (x :: r) = if p x then some (g x ++ r) else (F r).map (x :: ·)

theorem splicesFirst_spec {α : Type} {p : α → Prop} [DecidablePred p] {g : α → List α} {F : List α → Option (List α)}
    (hF : SplicesFirst p g F) {ls ls' : List α} (h : F ls = some ls') :
    ∃ a l b, ls = a ++ l :: b ∧ ls' = a ++ (g l ++ b) ∧ p l ∧ ∀ x ∈ a, ¬ p x := by
  induction ls generalizing ls' with
  | nil => rw [hF.nil] at h; nomatch h
  | cons x r ih =>
    rw [hF.cons] at h
    by_cases hp : p x
    · rw [if_pos hp, Option.some.injEq] at h
      exact ⟨[], x, r, rfl, h.symm, hp, nofun⟩
    · rw [if_neg hp, Option.map_eq_some_iff] at h
      obtain ⟨r', hr, rfl⟩ := h
      obtain ⟨a, l, b, rfl, rfl, hl, ha⟩ := ih hr
      exact ⟨x :: a, l, b, rfl, rfl, hl, List.forall_mem_cons.mpr ⟨hp, ha⟩⟩

theorem deleteKey_splices (o : Nat) : SplicesFirst (·.key = some o) (fun _ => []) (deleteKey (τ := τ) o) :=
  ⟨rfl, fun _ _ => rfl⟩

theorem insertAfterKey_splices (o : Nat) (n : Line τ) :
    SplicesFirst (·.key = some o) (fun l => [l, n]) (insertAfterKey o n) :=
  ⟨rfl, fun _ _ => rfl⟩

theorem replaceKey_splices (o : Nat) (n : Line τ) : SplicesFirst (·.key = some o) (fun _ => [n]) (replaceKey o n) :=
  ⟨rfl, fun _ _ => rfl⟩

/-- exactly one line, the first one printed by `o`, disappears; all others stay, in order -/
theorem deleteKey_spec (o : Nat) (ls ls' : List (Line τ)) (h : deleteKey o ls = some ls') :
    ∃ a l b, ls = a ++ l :: b ∧ ls' = a ++ b ∧ l.key = some o ∧ ∀ x ∈ a, ¬ x.key = some o :=
  splicesFirst_spec (deleteKey_splices o) h

/-- the new line stands right behind the first line printed by `o`; every old line stays, in order -/
theorem insertAfterKey_spec (o : Nat) (n : Line τ) (ls ls' : List (Line τ)) (h : insertAfterKey o n ls = some ls') :
    ∃ a l b, ls = a ++ l :: b ∧ ls' = a ++ l :: n :: b ∧ l.key = some o ∧ ∀ x ∈ a, ¬ x.key = some o :=
  splicesFirst_spec (insertAfterKey_splices o n) h

/-- the first line printed by `o` is exchanged for the new one; every other line stays -/
theorem replaceKey_spec (o : Nat) (n : Line τ) (ls ls' : List (Line τ)) (h : replaceKey o n ls = some ls') :
    ∃ a l b, ls = a ++ l :: b ∧ ls' = a ++ n :: b ∧ l.key = some o ∧ ∀ x ∈ a, ¬ x.key = some o :=
  splicesFirst_spec (replaceKey_splices o n) h

/-- same number of lines, same owners in the same order, and a line changes only if `o` prints it -/
theorem setKey_spec (o : Nat) (t : List τ) (ls : List (Line τ)) :
    (setKey o t ls).map (·.key) = ls.map (·.key) ∧
    ∀ (i : Nat) (l : Line τ), ls[i]? = some l →
      (setKey o t ls)[i]? = some (if l.key = some o then { l with toks := t } else l) := by
  constructor
  · simp only [setKey, List.map_map]
    apply List.map_congr_left
    intro l _
    by_cases hk : l.key = some o <;> simp [hk]
  · intro i l hl
    simp [setKey, List.getElem?_map, hl]

/-- the lines in front and the lines behind are the old ones, in order -/
theorem insertAt_spec (p : Nat) (n : Line τ) (ls : List (Line τ)) :
    insertAt p n ls = ls.take p ++ n :: ls.drop p := by
  unfold insertAt
  fun_induction pyInsert p n ls with
  | case1 => rfl
  | case2 => rfl
  | case3 p n x r ih => exact congrArg (x :: ·) ih

theorem filterMap_pyInsert (h : Nat → List τ) {x : Item τ} {l : Line τ} (hx : vis h x = some l)
    (n : Nat) (r : List (Item τ)) :
    (pyInsert n x r).filterMap (vis h) = pyInsert (visCount h n r) l (r.filterMap (vis h)) := by
  fun_induction pyInsert n x r with
  | case1 => exact List.filterMap_cons_some hx
  | case2 => exact List.filterMap_cons_some hx
  | case3 n x it r ih =>
    simp only [visCount, List.filterMap_cons, ih hx]
    cases vis h it with
    | none => rw [Nat.zero_add]
    | some l' => rw [Nat.add_comm 1, pyInsert]

theorem key_vis {h : Nat → List τ} {it : Item τ} {l : Line τ} (hv : vis h it = some l) (o : Nat) :
    l.key = some o ↔ it = .obj o := by
  cases it with
  | blank => cases hv
  | _ =>
    cases hv
    simp

/-- `e i` puts `g x` in place of the entry `x` at position `i` (nothing is asked for `i` past the end) -/
structure SplicesAt {α : Type} (g : α → List α) (e : Nat → List α → List α) : Prop where
  zero : ∀ x r, e 0 (x :: r) = g x ++ r
  succ : ∀ i x r, e (i + 1) (x :: r) = x :: e i r

theorem eraseIdx_splicesAt {α : Type} : SplicesAt (fun _ : α => []) fun i r => r.eraseIdx i :=
  ⟨fun _ _ => rfl, fun _ _ _ => rfl⟩

theorem set_splicesAt {α : Type} (x : α) : SplicesAt (fun _ => [x]) fun i r => r.set i x :=
  ⟨fun _ _ => rfl, fun _ _ _ => rfl⟩

theorem pyInsert_splicesAt {α : Type} (x : α) : SplicesAt (fun y => [y, x]) fun i r => pyInsert (i + 1) x r :=
  ⟨fun _ _ => rfl, fun _ _ _ => rfl⟩

/-- `index_of(obj)` followed by a list operation that puts `g` of the entry in its place (`del _reslist[i]`,
    `_reslist[i] = x`, `_reslist.insert(i + 1, x)`) is, on the written file, the splice at the first line `o` prints -/
theorem indexOf_splice (h : Nat → List τ) (o : Nat) {g : Item τ → List (Item τ)}
    {e : Nat → List (Item τ) → List (Item τ)} (he : SplicesAt g e) {g' : Line τ → List (Line τ)}
    {F : List (Line τ) → Option (List (Line τ))} (hF : SplicesFirst (·.key = some o) g' F)
    (hg : (g (.obj o)).filterMap (vis h) = g' ⟨some o, h o⟩) (r : List (Item τ)) :
    ((indexOf o r).map fun i => (e i r).filterMap (vis h)) = F (r.filterMap (vis h)) := by
  fun_induction indexOf o r with
  | case1 => exact hF.nil.symm
  | case2 r =>
    rw [Option.map_some, he.zero, List.filterMap_append, hg, List.filterMap_cons_some (f := vis h) (a := .obj o) rfl,
      hF.cons, if_pos rfl]
  | case3 it r hit ih =>
    simp only [Option.map_map, Function.comp_def, he.succ, List.filterMap_cons]
    cases hv : vis h it with
    | none => exact ih
    | some l =>
      have hk : ¬ l.key = some o := fun hk => hit ((key_vis hv o).mp hk)
      simp only [hF.cons, hk, if_false, ← ih, Option.map_map, Function.comp_def]

theorem filterMap_setHeap (h : Nat → List τ) (o : Nat) (t : List τ) (r : List (Item τ)) :
    r.filterMap (vis (setHeap h o t)) = setKey o t (r.filterMap (vis h)) := by
  rw [setKey, List.map_filterMap]
  congr 1; funext it
  cases it with
  | obj o' => by_cases ho : o' = o <;> simp [vis, setHeap, ho]
  | _ => rfl

theorem step_dow {s s' : St τ} {op : Op τ} (h : step s op = some s') : s'.dow = s.dow := by
  cases op with simp only [step, Option.map_eq_some_iff, Option.some.injEq] at h
  | addLine | setObj => subst h; rfl
  | _ => obtain ⟨_, _, rfl⟩ := h; rfl

/-- Every edit is exactly its abstract counterpart: the file written after an API call is the file written before
    it with just that edit applied, and the call raises exactly when the line it addresses is not in the file. -/
theorem op_refines (s : St τ) (hc : Clean s) (op : Op τ) :
    (step s op).map written = absStep (written s) (absOf s op) := by
  obtain ⟨r, dow, h⟩ := s
  obtain rfl : dow = [] := hc
  cases op with
    simp only [step, absStep, absOf, Option.map_map, Option.map_some, Function.comp_def, written_nil]
  | addLine i t => exact congrArg some (filterMap_pyInsert h rfl (i + 1) r)
  | insertAfter o t => exact indexOf_splice h o (pyInsert_splicesAt _) (insertAfterKey_splices o _) rfl r
  | delete o => exact indexOf_splice h o eraseIdx_splicesAt (deleteKey_splices o) rfl r
  | replace o t => exact indexOf_splice h o (set_splicesAt _) (replaceKey_splices o _) rfl r
  | setObj o t => exact congrArg some (filterMap_setHeap h o t r)
  | insertObjAfter u n t =>
    rw [← filterMap_setHeap]
    exact indexOf_splice _ u (pyInsert_splicesAt _) (insertAfterKey_splices u _) (by simp [vis, setHeap]) r

/-- The file written after any sequence of API calls is the originally written file with exactly those edits
    applied, in that order. -/
theorem history_refines (ops : List (Op τ)) : ∀ (s : St τ), Clean s →
    (run s ops).map written = absRun (written s) (absTrace s ops) := by
  induction ops with
  | nil => intro s _; rfl
  | cons op r ih =>
    intro s hc
    simp only [run, absTrace, absRun, ← op_refines s hc op]
    cases hs : step s op with
    | none => rfl
    | some s' => exact ih s' ((step_dow hs).trans hc)

theorem loadLine_dow (a : LoadSt τ) (l : Src τ) : (loadLine true a l).dow = a.dow := by
  unfold loadLine
  cases l.kind
  · cases a.sfac <;> rfl
  · cases a.fvar <;> rfl
  · rfl

theorem load_clean (src : List (Src τ)) : Clean (load src) :=
  List.foldlRecOn (motive := fun a : LoadSt τ => a.dow = []) src (loadLine true) (b := {}) rfl
    fun a h l _ => (loadLine_dow a l).trans h

/-- Tie to the source (table regenerated from `_parse_cards` / `write_shelx_file` on every run): the parser
    blanks the entry of every absorbed SYMM/SFAC/FVAR line in place and records no index, no function of the
    package adds to `delete_on_write`, and the writer skips `''`: the code uses the scheme that `load`
    implements, so `load_clean` is a statement about the code as it is. With the absolute-index scheme this
    `decide` fails: `absorb` then reads `("SFAC", false, true)`. A SYMM line is `.other` for `loadLine` (never absorbed):
    the SYMM row is the `else` of `if s not in self._reslist`, which a new `SYMM` object (no `__eq__`) never takes. -/
theorem extracted_scheme_is_load :
    Shelx.Extracted.C04.absorb = [("SYMM", true, false), ("SFAC", true, false), ("FVAR", true, false)] ∧
    Shelx.Extracted.C04.dowWriters = [] ∧ Shelx.Extracted.C04.writerSkipsEmpty = true := by decide +kernel

/-- the property for every file the repaired parser produces and every history of edits -/
theorem file_history_refines (src : List (Src τ)) (ops : List (Op τ)) :
    (run (load src) ops).map written = absRun (written (load src)) (absTrace (load src) ops) :=
  history_refines ops _ (load_clean src)

section AbsoluteIndices

def absorbedFrom : Nat → List (Item τ) → List Nat
  | _, [] => []
  | k, .absorbed _ :: r => k :: absorbedFrom (k + 1) r
  | k, .raw _ :: r => absorbedFrom (k + 1) r
  | k, .obj _ :: r => absorbedFrom (k + 1) r
  | k, .blank :: r => absorbedFrom (k + 1) r

/-- what the absolute-index scheme relies on: `delete_on_write` lists exactly the positions of the absorbed
    entries -/
def Marked (s : St τ) : Prop := s.dow = absorbedFrom 0 s.res

instance (s : St τ) : Decidable (Marked s) := by unfold Marked; infer_instance

/-- `vis` with the absorbed entries skipped: what the writer emits per entry while `delete_on_write` lists exactly those -/
def visKept (h : Nat → List τ) : Item τ → Option (Line τ)
  | .absorbed _ => none
  | it => vis h it

theorem absorbedFrom_eq (k : Nat) (r : List (Item τ)) :
    absorbedFrom k r = (r.zipIdx k).filterMap fun p => match p.1 with | .absorbed _ => some p.2 | _ => none := by
  induction r generalizing k with
  | nil => rfl
  | cons it r ih => cases it <;> simp only [absorbedFrom, ih, List.zipIdx_cons, List.filterMap_cons]

theorem mem_absorbedFrom (i : Nat) (r : List (Item τ)) :
    i ∈ absorbedFrom 0 r ↔ ∃ t, r[i]? = some (.absorbed t) := by
  simp only [absorbedFrom_eq, List.mem_filterMap, List.mem_zipIdx_iff_getElem?]
  constructor
  · rintro ⟨⟨it, j⟩, hj, hi⟩
    cases it <;> cases hi
    exact ⟨_, hj⟩
  · rintro ⟨t, ht⟩
    exact ⟨(.absorbed t, i), ht, rfl⟩

/-- while the indices are right the writer emits exactly the lines that were not absorbed: the first write
    after parsing is correct in the absolute-index scheme too -/
theorem written_of_marked (s : St τ) (hm : Marked s) : written s = s.res.filterMap (visKept s.heap) :=
  writtenFrom_eq fun i it hi => by
    rw [hm, Nat.zero_add]
    split
    next hk =>
      obtain ⟨t, ht⟩ := (mem_absorbedFrom i s.res).mp hk
      cases hi.symm.trans ht
      rfl
    next hk =>
      cases it with
      | absorbed t => exact (hk ((mem_absorbedFrom i s.res).mpr ⟨t, hi⟩)).elim
      | _ => rfl

theorem absorbedFrom_append (k : Nat) (l1 l2 : List (Item τ)) :
    absorbedFrom k (l1 ++ l2) = absorbedFrom k l1 ++ absorbedFrom (k + l1.length) l2 := by
  simp only [absorbedFrom_eq, List.zipIdx_append, List.filterMap_append]

theorem absorbedFrom_blanks (k n : Nat) : absorbedFrom k (blanks n : List (Item τ)) = [] := by
  induction n generalizing k with
  | zero => rfl
  | succ n ih => exact ih (k + 1)

theorem loadLine_marked (a : LoadSt τ) (l : Src τ) (h : a.dow = absorbedFrom 0 a.res) :
    (loadLine false a l).dow = absorbedFrom 0 (loadLine false a l).res := by
  have first : a.dow = absorbedFrom 0 (a.res ++ .obj a.next :: blanks (l.nphys - 1)) := by
    rw [absorbedFrom_append]
    simp only [absorbedFrom, absorbedFrom_blanks, List.append_nil, h]
  have absorb : ∀ t : List τ, a.dow ++ [a.res.length] = absorbedFrom 0 (a.res ++ .absorbed t :: blanks (l.nphys - 1)) := by
    intro t
    rw [absorbedFrom_append]
    simp only [absorbedFrom, absorbedFrom_blanks, Nat.zero_add, h]
  unfold loadLine
  cases l.kind
  · cases a.sfac
    · exact first
    · exact absorb _
  · cases a.fvar
    · exact first
    · exact absorb _
  · exact first

theorem loadAbs_marked (src : List (Src τ)) : Marked (loadAbs src) :=
  List.foldlRecOn (motive := fun a : LoadSt τ => a.dow = absorbedFrom 0 a.res) src (loadLine false) (b := {}) rfl
    fun a h l _ => loadLine_marked a l h

end AbsoluteIndices

section Witness

def twoSfacSrc : List (Src String) :=
  [⟨.other, 1, ["TITL", "x"]⟩, ⟨.sfac, 1, ["SFAC", "C"]⟩, ⟨.sfac, 1, ["SFAC", "H"]⟩, ⟨.other, 1, ["UNIT", "1", "2"]⟩,
   ⟨.fvar, 1, ["FVAR", "0.5"]⟩, ⟨.fvar, 1, ["FVAR", "0.8"]⟩, ⟨.other, 2, ["C1", "1", "0.1", "0.2", "0.3", "21.0", "0.04"]⟩]

def twoSfac : St String := loadAbs twoSfacSrc

/-- the unedited file is written correctly (one merged SFAC line, one merged FVAR line) -/
example : written twoSfac =
    [⟨some 0, ["TITL", "x"]⟩, ⟨some 1, ["SFAC", "C", "H"]⟩, ⟨some 3, ["UNIT", "1", "2"]⟩,
     ⟨some 4, ["FVAR", "0.5", "0.8"]⟩, ⟨some 6, ["C1", "1", "0.1", "0.2", "0.3", "21.0", "0.04"]⟩] := rfl

example : Marked twoSfac := loadAbs_marked _

/-- one `add_line(0, 'REM new')` later the SFAC table and the FVAR line are gone and `0.8` stands alone -/
example : (step twoSfac (.addLine 0 ["REM", "new"])).map written = some
    [⟨some 0, ["TITL", "x"]⟩, ⟨none, ["REM", "new"]⟩, ⟨none, []⟩, ⟨some 3, ["UNIT", "1", "2"]⟩,
     ⟨none, ["0.8"]⟩, ⟨some 6, ["C1", "1", "0.1", "0.2", "0.3", "21.0", "0.04"]⟩] := rfl

/-- the absolute-index scheme does not satisfy the property, even from a state in which `delete_on_write` is
    exactly right -/
theorem dow_breaks : ∃ (s : St String) (op : Op String),
    Marked s ∧ (step s op).map written ≠ absStep (written s) (absOf s op) :=
  ⟨twoSfac, .addLine 0 ["REM", "new"], loadAbs_marked _, by decide +kernel⟩

/-- the same through `insert_anis` (insertion after UNIT, i.e. between the SFAC and the FVAR region) and
    through the deletion of a line in front of the FVAR region (ACTA removal, atom deletion) -/
theorem dow_breaks_insert_anis :
    (step twoSfac (.insertAfter 3 ["ANIS"])).map written ≠ absStep (written twoSfac) (.insertAfter 3 ["ANIS"]) := by
  decide +kernel

theorem dow_breaks_delete :
    (step twoSfac (.delete 3)).map written ≠ absStep (written twoSfac) (.delete 3) := by decide +kernel

/-- `Marked` is the invariant the scheme cannot keep -/
theorem marked_not_preserved : ∃ (s s' : St String) (op : Op String),
    Marked s ∧ step s op = some s' ∧ ¬ Marked s' :=
  ⟨twoSfac, _, .addLine 0 ["REM", "new"], loadAbs_marked _, rfl, by decide +kernel⟩

/-- the repaired parser on the same file: the same `add_line` loses nothing -/
example : (step (load twoSfacSrc) (.addLine 0 ["REM", "new"])).map written = some
    [⟨some 0, ["TITL", "x"]⟩, ⟨none, ["REM", "new"]⟩, ⟨some 1, ["SFAC", "C", "H"]⟩, ⟨some 3, ["UNIT", "1", "2"]⟩,
     ⟨some 4, ["FVAR", "0.5", "0.8"]⟩, ⟨some 6, ["C1", "1", "0.1", "0.2", "0.3", "21.0", "0.04"]⟩] := rfl

/-- the parsed file meets the hypothesis of `history_refines` -/
example : Clean (load twoSfacSrc) := load_clean _

/-- a history from there that uses every kind of edit -/
example : (run (load twoSfacSrc) [.addLine 0 ["REM", "new"], .insertAfter 3 ["ANIS"], .setObj 3 ["UNIT", "1", "2", "1"],
      .delete 6, .replace 0 ["TITL", "y"], .insertObjAfter 3 9 ["ACTA"]]).map written = some
    [⟨none, ["TITL", "y"]⟩, ⟨none, ["REM", "new"]⟩, ⟨some 1, ["SFAC", "C", "H"]⟩, ⟨some 3, ["UNIT", "1", "2", "1"]⟩,
     ⟨some 9, ["ACTA"]⟩, ⟨none, ["ANIS"]⟩, ⟨some 4, ["FVAR", "0.5", "0.8"]⟩] := rfl

end Witness
end Shelx.C04
