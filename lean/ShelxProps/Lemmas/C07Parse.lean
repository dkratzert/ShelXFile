/-
  C07 — the parser of ShelxModel/C07.lean, line by line. `Step s l r` is the graph of `step` (`Step.eq`, `step_spec`):
  the seven ways `_parse_cards` reads a line. What is said about one line is proved by cases on it, and carried over
  to a whole parse by induction along `parseAux`: the parser's logical lines are the specification's
  (`logicalHeads_eq_parse`); the table object stands once, at the first SFAC (FVAR) line, or no line feeds the table
  (`atTable_unseen`).
-/
import ShelxModel.C07

namespace Shelx.C07

variable {α : Type}

@[simp] theorem seen_withMode (s : St) (m : Mode) (t : Tab) : St.seen { s with mode := m } t = s.seen t := by
  cases t <;> rfl

theorem seen_mark (s : St) (t t' : Tab) : (s.mark t).seen t' = (decide (t' = t) || s.seen t') := by
  cases t <;> cases t' <;> simp [St.mark, St.seen]

theorem mark_of_seen {s : St} {t : Tab} (h : s.seen t = true) : s.mark t = s := by
  cases t <;> simp only [St.seen] at h <;> simp [St.mark, ← h]

theorem withMode_self {s : St} {m : Mode} (h : s.mode = m) : { s with mode := m } = s := by rw [← h]

theorem contMode_cont {l : PLine α} (h : l.cont = true) (m : Mode) : contMode l m = m := by simp [contMode, h]

theorem contMode_not_cont {l : PLine α} (h : l.cont = false) (m : Mode) : contMode l m = .top := by simp [contMode, h]

@[simp] theorem contMode_top (l : PLine α) : contMode l .top = .top := by simp [contMode]

namespace Mode

def isCont : Mode → Bool
  | .top => false
  | _ => true

end Mode

@[simp] theorem isCont_top : Mode.top.isCont = false := rfl
@[simp] theorem isCont_objCont : Mode.objCont.isCont = true := rfl
@[simp] theorem isCont_rawCont : Mode.rawCont.isCont = true := rfl

@[simp] theorem isCont_contMode (l : PLine α) (m : Mode) : (contMode l m).isCont = (l.cont && m.isCont) := by
  cases m <;> cases h : l.cont <;> simp [contMode, h]

theorem empty_of_not_skip {l : PLine α} (h : l.skip = false) : l.empty = false := by
  simp only [PLine.skip, Bool.or_eq_false_iff] at h; exact h.2

inductive Step (s : St) (l : PLine α) : Item α × St → Prop
  | objCont : s.mode = .objCont → Step s l (.blanked l, { s with mode := contMode l .objCont })
  | rawCont : s.mode = .rawCont → Step s l (.contKept l, { s with mode := contMode l .rawCont })
  | skip : s.mode = .top → l.skip = true → Step s l (.str l, s)
  | raw : s.mode = .top → l.skip = false → l.cls = .raw → Step s l (.str l, { s with mode := contMode l .rawCont })
  | card : s.mode = .top → l.skip = false → l.cls = .obj ∨ l.cls = .atom →
      Step s l (.card l, { s with mode := contMode l .objCont })
  | first (t : Tab) : s.mode = .top → l.skip = false → l.cls = .tab t → s.seen t = false →
      Step s l (.table t l, { s.mark t with mode := contMode l .objCont })
  | later (t : Tab) : s.mode = .top → l.skip = false → l.cls = .tab t → s.seen t = true →
      Step s l (.absorbed t l, { s with mode := contMode l .objCont })

namespace Step

theorem eq {s : St} {l : PLine α} {r : Item α × St} (h : Step s l r) : step s l = r := by
  cases h with
  | card _ _ hc => rcases hc with hc | hc <;> simp [step, *]
  | later t _ _ _ ht => simp [step, *, mark_of_seen ht]
  | _ => simp [step, *]

end Step

theorem step_spec (s : St) (l : PLine α) : Step s l (step s l) := by
  have of : ∀ {r}, Step s l r → Step s l (step s l) := fun h => h.eq ▸ h
  cases hm : s.mode with
  | objCont => exact of (.objCont hm)
  | rawCont => exact of (.rawCont hm)
  | top =>
    cases hs : l.skip with
    | true => exact of (.skip hm hs)
    | false =>
      cases hc : l.cls with
      | raw => exact of (.raw hm hs hc)
      | obj => exact of (.card hm hs (.inl hc))
      | atom => exact of (.card hm hs (.inr hc))
      | tab t =>
        cases ht : s.seen t with
        | false => exact of (.first t hm hs hc ht)
        | true => exact of (.later t hm hs hc ht)

def endSt (s : St) (pre : List (PLine α)) : St := pre.foldl (fun s l => (step s l).2) s

theorem parseAux_append (s : St) (a b : List (PLine α)) :
    parseAux s (a ++ b) = parseAux s a ++ parseAux (endSt s a) b := by
  induction a generalizing s with
  | nil => rfl
  | cons l a ih => simp [parseAux, endSt, ih]

theorem flatMap_parseAux_congr {β : Type} {φ ψ : Item α → List β} {f : List (PLine α)}
    (H : ∀ l ∈ f, ∀ s r, Step s l r → φ r.1 = ψ r.1) (s : St) :
    (parseAux s f).flatMap φ = (parseAux s f).flatMap ψ := by
  induction f generalizing s with
  | nil => rfl
  | cons l f ih =>
    rw [parseAux, List.flatMap_cons, List.flatMap_cons, H l (List.mem_cons_self ..) s _ (step_spec s l),
      ih fun x hx => H x (List.mem_cons_of_mem _ hx)]

namespace Item

/-- the line an item stands for, if the item is the start of a logical line -/
def heads : Item α → List (PLine α)
  | .str l => if l.skip then [] else [l]
  | .card l | .table _ l | .absorbed _ l => [l]
  | _ => []

end Item

namespace Step

theorem heads {s : St} {l : PLine α} {r : Item α × St} (h : Step s l r) (rest : List (PLine α)) :
    logicalHeads s.mode.isCont (l :: rest) = r.1.heads ++ logicalHeads r.2.mode.isCont rest := by
  cases h <;> simp [*, logicalHeads, Item.heads]

end Step

theorem logicalHeads_eq_parse (s : St) (f : List (PLine α)) :
    logicalHeads s.mode.isCont f = (parseAux s f).flatMap Item.heads := by
  induction f generalizing s with
  | nil => cases s.mode.isCont <;> rfl
  | cons l f ih => rw [(step_spec s l).heads, ih]; rfl

/-- `v` at the item that holds table `t`, nothing at any other: along a parse this adds up to `v` if a line feeds
    the table (the item stands once), to `[]` if none does (`atTable_unseen`) -/
def atTable {β : Type} (t : Tab) (v : List β) : Item α → List β
  | .table t' _ => if t' = t then v else []
  | _ => []

section table
variable {β : Type} {s : St} (t : Tab) (v : List β)

namespace Step
variable {l : PLine α} {r : Item α × St}

theorem table_seen (h : Step s l r) (ht : s.seen t = true) : r.2.seen t = true ∧ atTable t v r.1 = [] := by
  cases h with
  | first t' _ _ _ ht' =>
    have e : t' ≠ t := fun e => by rw [e, ht] at ht'; cases ht'
    simp [atTable, seen_mark, e, ht]
  | _ => simp [*, atTable]

theorem table_unseen (h : Step s l r) (ht : s.seen t = false) :
    (r.2.seen t = true ∧ atTable t v r.1 = v) ∨ (r.2.seen t = false ∧ atTable t v r.1 = [] ∧ itemVals t r.1 = []) := by
  cases h with
  | first t' =>
    by_cases e : t' = t
    · simp [atTable, seen_mark, e]
    · simp [atTable, itemVals, seen_mark, e, Ne.symm e, ht]
  | later t' _ _ _ ht' =>
    have e : t' ≠ t := fun e => by rw [e, ht] at ht'; cases ht'
    simp [atTable, itemVals, e, ht]
  | _ => simp [*, atTable, itemVals]

end Step

theorem atTable_seen (f : List (PLine α)) (ht : s.seen t = true) : (parseAux s f).flatMap (atTable t v) = [] := by
  induction f generalizing s with
  | nil => rfl
  | cons l f ih =>
    obtain ⟨h1, h2⟩ := (step_spec s l).table_seen t v ht
    simp [parseAux, h2, ih h1]

theorem atTable_unseen (f : List (PLine α)) (ht : s.seen t = false) :
    (parseAux s f).flatMap (atTable t v) = v ∨
      ((parseAux s f).flatMap (atTable t v) = [] ∧ (parseAux s f).flatMap (itemVals t) = []) := by
  induction f generalizing s with
  | nil => exact .inr ⟨rfl, rfl⟩
  | cons l f ih =>
    simp only [parseAux, List.flatMap_cons]
    rcases (step_spec s l).table_unseen t v ht with ⟨h1, h2⟩ | ⟨h1, h2, h3⟩
    · rw [h2, atTable_seen t v f h1, List.append_nil]; exact .inl rfl
    · rw [h2, h3]; exact ih h1

end table

end Shelx.C07
