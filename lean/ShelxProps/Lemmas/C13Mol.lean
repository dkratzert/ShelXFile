/-
  C13, molecule numbering: the loop invariant of `calc_molindex` and the termination measure, for
  `molindex_components` and `calcMolindex_fuel_sufficient` in `ShelxProps/C13.lean`.

  The labels only ever change by numbering one unnumbered atom (`inv_upd`); a firing item does that with the current
  number (`inv_fire`), the outer loop with a new one (`inv_seed`). The invariant `Inv` says that the molecules numbered
  earlier are complete and every number sits on a connected set; `molOuter_spec` carries it through both loops.
  Termination is separate and needs no invariant: every firing and every new molecule numbers one more atom
  (`negCount`), so `n + 1` rounds of either loop suffice (`molOuter_fuel`). The sweep is a fold: what it keeps, when it
  is idle and what it costs are three instances of `foldl_prefix_inv`.
-/
import ShelxModel.C13
import Mathlib.Data.Int.Order.Basic

namespace Shelx.C13

/-- connected in the bond graph (`covalent` items, either direction) -/
inductive Conn (items : List Bond) : Nat → Nat → Prop
  | refl (i : Nat) : Conn items i i
  | bond (b : Bond) (hb : b ∈ items) (hc : b.covalent = true) : Conn items b.a1 b.a2
  | symm {i j : Nat} : Conn items i j → Conn items j i
  | trans {i j k : Nat} : Conn items i j → Conn items j k → Conn items i k

/-- one `covalent` item joins `a` and `b`, in either order: the single step of `Conn` (`Adj.conn`) -/
def Adj (items : List Bond) (a b : Nat) : Prop :=
  ∃ e ∈ items, e.covalent = true ∧ (e.a1 = a ∧ e.a2 = b ∨ e.a1 = b ∧ e.a2 = a)

variable {items : List Bond} {mx : Int} {m : Nat → Int}

theorem adj_of_mem {e : Bond} (he : e ∈ items) (hc : e.covalent = true) : Adj items e.a1 e.a2 :=
  ⟨e, he, hc, Or.inl ⟨rfl, rfl⟩⟩

theorem Adj.symm {a b : Nat} (h : Adj items a b) : Adj items b a := by
  obtain ⟨e, he, hc, h⟩ := h
  exact ⟨e, he, hc, h.symm⟩

theorem Adj.conn {a b : Nat} (h : Adj items a b) : Conn items a b := by
  obtain ⟨e, he, hc, ⟨rfl, rfl⟩ | ⟨rfl, rfl⟩⟩ := h
  · exact Conn.bond e he hc
  · exact (Conn.bond e he hc).symm

theorem upd_same (m : Nat → Int) (i : Nat) (v : Int) : upd m i v i = v := if_pos rfl
theorem upd_other (m : Nat → Int) (i k : Nat) (v : Int) (h : k ≠ i) : upd m i v k = m k := if_neg h

theorem upd_cases (m : Nat → Int) (i : Nat) (v : Int) (k : Nat) :
    k = i ∧ upd m i v k = v ∨ k ≠ i ∧ upd m i v k = m k :=
  (Decidable.em (k = i)).imp (fun h => ⟨h, h ▸ upd_same m i v⟩) fun h => ⟨h, upd_other m i k v h⟩

theorem upd_eq_self {i : Nat} {v : Int} (h : m i = v) : upd m i v = m := by
  funext k
  rcases upd_cases m i v k with ⟨rfl, e⟩ | ⟨_, e⟩ <;> rw [e]
  exact h.symm

theorem fires_iff (m : Nat → Int) (b : Bond) :
    fires m b = true ↔ b.covalent = true ∧ (0 < m b.a1 ∧ m b.a2 < 0 ∨ m b.a1 < 0 ∧ 0 < m b.a2) := by
  simp [fires, Int.mul_neg_iff]

theorem fires_ne {b : Bond} (hf : fires m b = true) : b.a2 ≠ b.a1 := fun h => by
  have := ((fires_iff m b).mp hf).2
  rw [h] at this
  omega

theorem molStep_fire {st : (Nat → Int) × Nat} {b : Bond} (h : fires st.1 b = true) :
    molStep mx st b = (upd (upd st.1 b.a1 mx) b.a2 mx, st.2 + 1) := if_pos h

theorem molStep_skip {st : (Nat → Int) × Nat} {b : Bond} (h : ¬ fires st.1 b = true) : molStep mx st b = st :=
  if_neg h

/-- invariant of a left fold that may speak of the elements folded so far -/
theorem foldl_prefix_inv {σ β : Type} (f : σ → β → σ) (P : List β → σ → Prop) :
    ∀ (l pre : List β) (s : σ), (∀ pre b s, b ∈ l → P pre s → P (pre ++ [b]) (f s b)) → P pre s →
      P (pre ++ l) (l.foldl f s)
  | [], pre, s, _, h => by rwa [List.append_nil]
  | b :: l, pre, s, step, h => by
    rw [List.append_cons]
    exact foldl_prefix_inv f P l _ _ (fun p x s hx => step p x s (List.mem_cons_of_mem _ hx))
      (step pre b s List.mem_cons_self h)

/-- `mx` is the number of the molecule under construction.
    `zero`: atom 0 is numbered from the start (`calcMolindex` seeds it with 1), so `firstUnassigned` never finds 0 and
    the `ni = 0` exit of `molOuter` is dead. `old`: the molecules numbered before `mx` are complete (a bonded neighbour
    of an atom with a smaller number has that number); only molecule `mx` may still have unnumbered neighbours.
    `range`: a label is negative (unnumbered) or one of 1..`mx`, never 0, so an item on which the product test of `fires`
    fails joins no numbered atom to an unnumbered one (`inv_closed`). `conn`: atoms that carry the same number are connected. -/
structure Inv (items : List Bond) (mx : Int) (m : Nat → Int) : Prop where
  zero : 0 < m 0
  range : ∀ i, m i < 0 ∨ (0 < m i ∧ m i ≤ mx)
  old : ∀ a b, Adj items a b → 0 < m a → m a < mx → m b = m a
  conn : ∀ i j, 0 < m i → m i = m j → Conn items i j

/-- no covalent item leads from a numbered atom to an unnumbered one: what an idle sweep leaves (`inv_closed`) and what
    starting a new number asks (`inv_upd`) -/
def Closed (items : List Bond) (m : Nat → Int) : Prop := ∀ a b, Adj items a b → 0 < m a → 0 < m b

theorem inv_mxpos (hi : Inv items mx m) : 0 < mx := by
  have := hi.zero
  have := hi.range 0
  omega

theorem inv_same (hi : Inv items mx m) {a b : Nat} (hab : Adj items a b) (pa : 0 < m a) (pb : 0 < m b) :
    m a = m b := by
  have := hi.old a b hab pa
  have := hi.old b a hab.symm pb
  have := hi.range a
  have := hi.range b
  omega

theorem inv_label_of_conn (hi : Inv items mx m) (hc : Closed items m) {a b : Nat} (h : Conn items a b) :
    m a = m b ∨ (m a < 0 ∧ m b < 0) := by
  induction h with
  | refl => exact Or.inl rfl
  | bond e he hcov =>
    have adj := adj_of_mem he hcov
    have := hi.range e.a1
    have := hi.range e.a2
    have := hc _ _ adj
    have := hc _ _ adj.symm
    have := inv_same hi adj
    omega
  | symm _ ih => omega
  | trans _ _ ih1 ih2 => omega

theorem inv_closed (hi : Inv items mx m) (h : ∀ b ∈ items, fires m b = false) : Closed items m := by
  intro a b ⟨e, he, hcov, hor⟩ pa
  have hb := hi.range b
  have hf := h e he
  rw [← Bool.not_eq_true, fires_iff] at hf
  rcases hor with ⟨rfl, rfl⟩ | ⟨rfl, rfl⟩ <;> exact Decidable.byContradiction fun hn => hf ⟨hcov, by omega⟩

/-- a new number is only started on a closed numbering (`hcl`); `k` is connected to whatever carries `v` already (`hc`) -/
theorem inv_upd (hi : Inv items mx m) {k : Nat} {v : Int} (hk : m k < 0) (hv : mx ≤ v)
    (hcl : mx < v → Closed items m) (hc : ∀ j, m j = v → Conn items k j) : Inv items v (upd m k v) := by
  have h0 := hi.zero
  have hmx := inv_mxpos hi
  have val := upd_cases m k v
  refine ⟨?_, fun i => ?_, fun a b hab => ?_, fun i j => ?_⟩
  · rcases val 0 with ⟨_, e⟩ | ⟨_, e⟩ <;> omega
  · have := hi.range i
    rcases val i with ⟨_, e⟩ | ⟨_, e⟩ <;> omega
  · rcases val a with ⟨_, ea⟩ | ⟨_, ea⟩ <;> rw [ea]
    · exact fun _ h => absurd h (Int.lt_irrefl v)
    · intro pa la
      -- `b` carries the label of `a` already, so it is not `k`
      have e : m b = m a := by
        by_cases h : m a < mx
        · exact hi.old a b hab pa h
        · have := hi.range a
          exact (inv_same hi hab pa (hcl (by omega) a b hab pa)).symm
      rcases val b with ⟨rfl, _⟩ | ⟨_, eb⟩
      · omega
      · rw [eb, e]
  · intro pi e
    rcases val i with ⟨hik, ei⟩ | ⟨_, ei⟩ <;> rw [ei] at pi e
    · rcases val j with ⟨hjk, ej⟩ | ⟨_, ej⟩ <;> rw [ej] at e
      · rw [hik, hjk]; exact Conn.refl k
      · rw [hik]; exact hc j e.symm
    · rcases val j with ⟨hjk, ej⟩ | ⟨_, ej⟩ <;> rw [ej] at e
      · rw [hjk]; exact (hc i e).symm
      · exact hi.conn i j pi e

theorem inv_assign (hi : Inv items mx m) {a b : Nat} (hab : Adj items a b) (pa : 0 < m a) (qb : m b < 0) :
    m a = mx ∧ Inv items mx (upd m b mx) := by
  have ea : m a = mx := by
    have := hi.old a b hab pa
    have := hi.range a
    omega
  exact ⟨ea, inv_upd hi qb (Int.le_refl _) (fun h => absurd h (Int.lt_irrefl _))
    fun j hj => hab.symm.conn.trans (hi.conn a j pa (ea.trans hj.symm))⟩

/-- of the two writes of a firing item, the one to the numbered end changes nothing -/
theorem inv_fire (hi : Inv items mx m) {b : Bond} (hb : b ∈ items) (hf : fires m b = true) :
    Inv items mx (upd (upd m b.a1 mx) b.a2 mx) := by
  obtain ⟨hcov, ⟨p, q⟩ | ⟨q, p⟩⟩ := (fires_iff m b).mp hf
  · obtain ⟨e, h⟩ := inv_assign hi (adj_of_mem hb hcov) p q
    rwa [upd_eq_self e]
  · obtain ⟨e, h⟩ := inv_assign hi (adj_of_mem hb hcov).symm p q
    rwa [upd_eq_self ((upd_other m b.a1 b.a2 mx (fires_ne hf)).trans e)]

theorem inv_seed (hi : Inv items mx m) (hc : Closed items m) {ni : Nat} (hn : m ni < 0) :
    Inv items (mx + 1) (upd m ni (mx + 1)) :=
  inv_upd hi hn (by omega) (fun _ => hc) fun j hj => by
    have := inv_mxpos hi
    have := hi.range j
    omega

theorem inv_init (items : List Bond) : Inv items 1 (upd (fun _ => -1) 0 1) := by
  have val := upd_cases (fun _ => (-1 : Int)) 0 1
  refine ⟨by rw [upd_same]; omega, fun i => ?_, fun a b _ => ?_, fun i j => ?_⟩
  · rcases val i with ⟨_, e⟩ | ⟨_, e⟩ <;> omega
  · rcases val a with ⟨_, e⟩ | ⟨_, e⟩ <;> omega
  · intro pi e
    rcases val i with ⟨hi0, ei⟩ | ⟨_, ei⟩ <;> rcases val j with ⟨hj0, ej⟩ | ⟨_, ej⟩
    · rw [hi0, hj0]; exact Conn.refl 0
    all_goals omega

theorem molPass_inv (hi : Inv items mx m) : Inv items mx (molPass mx items m).1 := by
  refine foldl_prefix_inv (molStep mx) (fun _ s => Inv items mx s.1) items [] (m, 0) (fun _ b s hb h => ?_) hi
  by_cases hf : fires s.1 b = true
  · rw [molStep_fire hf]; exact inv_fire h hb hf
  · rwa [molStep_skip hf]

theorem molPass_quiet (items : List Bond) (h : (molPass mx items m).2 = 0) :
    (molPass mx items m).1 = m ∧ ∀ b ∈ items, fires m b = false := by
  refine foldl_prefix_inv (molStep mx) (fun pre s => s.2 = 0 → s.1 = m ∧ ∀ b ∈ pre, fires m b = false) items []
    (m, 0) (fun pre b s _ ih => ?_) (fun _ => ⟨rfl, fun _ hb => absurd hb List.not_mem_nil⟩) h
  by_cases hf : fires s.1 b = true
  · rw [molStep_fire hf]; exact fun h0 => absurd h0 (Nat.succ_ne_zero _)
  · rw [molStep_skip hf]
    intro h0
    obtain ⟨e, hq⟩ := ih h0
    refine ⟨e, fun x hx => ?_⟩
    rcases List.mem_append.mp hx with hx | hx
    · exact hq x hx
    · rw [List.mem_singleton.mp hx, ← e]; exact (Bool.not_eq_true _).mp hf

theorem molInner_spec : ∀ (f : Nat) (m m' : Nat → Int),
    Inv items mx m → molInner mx items f m = some m' → Inv items mx m' ∧ Closed items m'
  | 0, _, _, _, h => by simp [molInner] at h
  | f + 1, m, m', hi, h => by
    have hp := molPass_inv hi
    rw [molInner] at h
    split at h
    · next hz =>
      obtain rfl := Option.some.inj h
      obtain ⟨e, hq⟩ := molPass_quiet items hz
      exact ⟨hp, inv_closed hp (e.symm ▸ hq)⟩
    · exact molInner_spec f _ _ hp h

theorem firstUnassigned_some {hyd : Nat → Bool} {n i : Nat} (h : firstUnassigned hyd n m = some i) :
    i < n ∧ hyd i = false ∧ m i < 0 := by
  have h1 := List.find?_some h
  simp only [Bool.and_eq_true, Bool.not_eq_true', decide_eq_true_eq] at h1
  exact ⟨List.mem_range.mp (List.mem_of_find?_eq_some h), h1⟩

theorem firstUnassigned_none {hyd : Nat → Bool} {n i : Nat} (h : firstUnassigned hyd n m = none) (hi : i < n)
    (hh : hyd i = false) : ¬ m i < 0 := by
  have := List.find?_eq_none.mp h i (List.mem_range.mpr hi)
  simpa [hh] using this

theorem molOuter_spec (hyd : Nat → Bool) (n fi : Nat) : ∀ (f : Nat) (mx : Int) (m : Nat → Int)
    (r : (Nat → Int) × Int), Inv items mx m → molOuter hyd n items fi f mx m = some r →
    Inv items r.2 r.1 ∧ Closed items r.1 ∧ firstUnassigned hyd n r.1 = none
  | 0, _, _, _, _, h => by simp [molOuter] at h
  | f + 1, mx, m, r, hi, h => by
    rw [molOuter] at h
    split at h
    · cases h
    · next m1 hin =>
      obtain ⟨hinv, hcl⟩ := molInner_spec fi m m1 hi hin
      split at h
      · next hfu =>
        obtain rfl := Option.some.inj h
        exact ⟨hinv, hcl, hfu⟩
      · next ni hfu =>
        obtain ⟨_, _, hneg⟩ := firstUnassigned_some hfu
        split at h
        · -- index 0 is never unnumbered: the branch that would end the loop early is dead
          next h0 => rw [h0] at hneg; have := hinv.zero; omega
        · exact molOuter_spec hyd n fi f _ _ r (inv_seed hinv hcl hneg) h

/-- the number of unnumbered atoms among the first `n` -/
def negCount : Nat → (Nat → Int) → Nat
  | 0, _ => 0
  | k + 1, m => negCount k m + (if m k < 0 then 1 else 0)

theorem negCount_le (n : Nat) (m : Nat → Int) : negCount n m ≤ n := by
  induction n with
  | zero => exact Nat.le_refl 0
  | succ k ih => rw [negCount]; split <;> omega

theorem negCount_upd (n i : Nat) (m : Nat → Int) (v : Int) (hv : 0 ≤ v) :
    negCount n (upd m i v) ≤ negCount n m ∧ (i < n → m i < 0 → negCount n (upd m i v) < negCount n m) := by
  induction n with
  | zero => exact ⟨Nat.le_refl _, fun h => absurd h (Nat.not_lt_zero _)⟩
  | succ k ih =>
    rw [negCount, negCount]
    rcases upd_cases m i v k with ⟨rfl, e⟩ | ⟨_, e⟩ <;> rw [e]
    · rw [if_neg (by omega)]
      exact ⟨by omega, fun _ h => by rw [if_pos h]; omega⟩
    · exact ⟨by omega, fun _ h => by have := ih.2 (by omega) h; omega⟩

theorem fire_decreases (n : Nat) (m : Nat → Int) (mx : Int) (hmx : 0 < mx) (b : Bond) (h1 : b.a1 < n) (h2 : b.a2 < n)
    (hf : fires m b = true) : negCount n (upd (upd m b.a1 mx) b.a2 mx) + 1 ≤ negCount n m := by
  have e1 := negCount_upd n b.a1 m mx (by omega)
  have e2 := negCount_upd n b.a2 (upd m b.a1 mx) mx (by omega)
  obtain ⟨_, ⟨p, q⟩ | ⟨p, q⟩⟩ := (fires_iff m b).mp hf
  · have := e2.2 h2 (by rwa [upd_other m b.a1 b.a2 mx (fires_ne hf)])
    omega
  · have := e1.2 h1 p
    omega

theorem molPass_measure (n : Nat) (hmx : 0 < mx) (hb : ∀ b ∈ items, b.a1 < n ∧ b.a2 < n) (m : Nat → Int) :
    negCount n (molPass mx items m).1 + (molPass mx items m).2 ≤ negCount n m := by
  refine foldl_prefix_inv (molStep mx) (fun _ s => negCount n s.1 + s.2 ≤ negCount n m) items [] (m, 0)
    (fun _ b s hbm h => ?_) (Nat.le_refl _)
  by_cases hf : fires s.1 b = true
  · have := fire_decreases n s.1 mx hmx b (hb b hbm).1 (hb b hbm).2 hf
    rw [molStep_fire hf]
    dsimp only
    omega
  · rwa [molStep_skip hf]

theorem molInner_fuel (n : Nat) (hmx : 0 < mx) (hb : ∀ b ∈ items, b.a1 < n ∧ b.a2 < n) :
    ∀ (f : Nat) (m : Nat → Int), negCount n m < f →
      ∃ m', molInner mx items f m = some m' ∧ negCount n m' ≤ negCount n m
  | 0, _, h => by omega
  | f + 1, m, h => by
    have hm := molPass_measure n hmx hb m
    rw [molInner]
    split
    · exact ⟨_, rfl, by omega⟩
    · obtain ⟨m', e, hle⟩ := molInner_fuel n hmx hb f (molPass mx items m).1 (by omega)
      exact ⟨m', e, by omega⟩

theorem molOuter_fuel (hyd : Nat → Bool) (n : Nat) (hb : ∀ b ∈ items, b.a1 < n ∧ b.a2 < n) :
    ∀ (f : Nat) (mx : Int) (m : Nat → Int), 0 < mx → negCount n m < f →
      (molOuter hyd n items (n + 1) f mx m).isSome = true
  | 0, _, _, _, h => by omega
  | f + 1, mx, m, hmx, h => by
    obtain ⟨m1, e, hle⟩ := molInner_fuel n hmx hb (n + 1) m (by have := negCount_le n m; omega)
    rw [molOuter, e]
    dsimp only
    split
    · rfl
    · next ni hfu =>
      split
      · rfl
      · obtain ⟨hlt, _, hneg⟩ := firstUnassigned_some hfu
        have := (negCount_upd n ni m1 (mx + 1) (by omega)).2 hlt hneg
        exact molOuter_fuel hyd n hb f (mx + 1) _ (by omega) (by omega)

end Shelx.C13
