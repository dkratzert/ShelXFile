/-
  C17 — facts about the text helpers of the model (ShelxModel/C17.lean); what is needed of `Char.toUpper` comes from
  Lemmas/C05Text.lean.
-/
import ShelxModel.C17
import ShelxProps.Lemmas.C05Text

namespace Shelx.C17
open C05 (isLower_iff isUpper_iff not_lower_of_not_alpha toUpper_of_not_lower toUpper_idem toUpper_eq_iff)

theorem isDigit_iff {c : Char} : c.isDigit = true ↔ '0' ≤ c ∧ c ≤ '9' := by
  simp only [Char.isDigit, ge_iff_le, Bool.and_eq_true, decide_eq_true_eq, Char.le_def]

theorem digit_not_alpha {c : Char} (h : c.isDigit = true) : c.isAlpha = false :=
  have h9 := (isDigit_iff.1 h).2
  Bool.or_eq_false_iff.2
    ⟨Bool.eq_false_iff.2 fun hu => absurd (Char.le_trans (isUpper_iff.1 hu).1 h9) (by decide),
     Bool.eq_false_iff.2 fun hl => absurd (Char.le_trans (isLower_iff.1 hl).1 h9) (by decide)⟩

theorem upper_append (a b : Str) : upper (a ++ b) = upper a ++ upper b := List.map_append

theorem upper_cons (c : Char) (s : Str) : upper (c :: s) = c.toUpper :: upper s := rfl

theorem mem_upper {x : Char} (hx : x.isAlpha = false) {s : Str} : x ∈ upper s ↔ x ∈ s := by
  simp only [upper, List.mem_map, toUpper_eq_iff hx, exists_eq_right]

theorem us_mem_upper {s : Str} : '_' ∈ upper s ↔ '_' ∈ s := mem_upper (by decide)

theorem upper_idem (s : Str) : upper (upper s) = upper s := by
  simp only [upper, List.map_map, Function.comp_def, toUpper_idem]

theorem upper_of_no_letter {s : Str} (h : ∀ c ∈ s, c.isAlpha = false) : upper s = s :=
  (List.map_congr_left (g := id) fun c hc => toUpper_of_not_lower (not_lower_of_not_alpha (h c hc))).trans
    (List.map_id s)

theorem natStr_digits (n : Nat) : ∀ c ∈ natStr n, c.isDigit = true :=
  fun _ hc => Nat.isDigit_of_mem_toDigits (by decide) (by decide) hc

theorem not_mem_natStr {x : Char} (hx : x.isDigit = false) (n : Nat) : x ∉ natStr n :=
  fun h => absurd (natStr_digits n x h) (by simp [hx])

theorem toNat_natStr (n : Nat) : toNat (natStr n) = n := Nat.ofDigitChars_ten_toDigits

theorem natStr_inj {a b : Nat} (h : natStr a = natStr b) : a = b := by
  rw [← toNat_natStr a, h, toNat_natStr]

theorem upper_natStr (n : Nat) : upper (natStr n) = natStr n :=
  upper_of_no_letter fun c hc => digit_not_alpha (natStr_digits n c hc)

theorem isDigitStr_cons {c : Char} {cs : Str} : isDigitStr (c :: cs) = true ↔ c.isDigit = true ∧ ∀ d ∈ cs, d.isDigit = true := by
  simp [isDigitStr]

theorem isDigitStr_natStr (n : Nat) : isDigitStr (natStr n) = true := by
  simp only [isDigitStr, Bool.and_eq_true, Bool.not_eq_true', List.isEmpty_eq_false_iff, List.all_eq_true]
  exact ⟨Nat.toDigits_ne_nil, natStr_digits n⟩

theorem isDigitStr_ne_star {s : Str} (h : isDigitStr s = true) : s ≠ ['*'] := by
  rintro rfl; cases h

theorem upper_name_num (nm : Str) (n : Nat) : upper (nm ++ '_' :: natStr n) = upper nm ++ '_' :: natStr n := by
  rw [upper_append, upper_cons, upper_natStr]; rfl

theorem mem_dedup {l : List Nat} {x : Nat} : x ∈ dedup l ↔ x ∈ l := by
  induction l with
  | nil => rfl
  | cons y ys ih =>
    simp only [dedup, List.mem_cons, List.mem_filter, ih, bne_iff_ne, ne_eq]
    by_cases hxy : x = y <;> simp [hxy]

theorem us_cases (s : Str) : '_' ∉ s ∨ ∃ a t, '_' ∉ a ∧ s = a ++ '_' :: t := by
  induction s with
  | nil => exact .inl (by simp)
  | cons x xs ih =>
    by_cases hx : x = '_'
    · exact .inr ⟨[], xs, by simp, by rw [hx]; rfl⟩
    · have hx' : ¬ '_' = x := fun e => hx e.symm
      rcases ih with h | ⟨a, t, ha, rfl⟩
      · exact .inl (by simp [hx', h])
      · exact .inr ⟨x :: a, t, by simp [hx', ha], rfl⟩

section
variable {a : Str} (h : '_' ∉ a)
include h

theorem ne_us_of_not_mem : ∀ x ∈ a, (x != '_') = true :=
  fun _ hx => bne_iff_ne.2 fun e => h (e ▸ hx)

theorem beforeUS_append (b : Str) : beforeUS (a ++ b) = a ++ beforeUS b :=
  List.takeWhile_append_of_pos (ne_us_of_not_mem h)

theorem afterUS_append (b : Str) : afterUS (a ++ b) = afterUS b := by
  rw [afterUS, List.dropWhile_append_of_pos (ne_us_of_not_mem h)]; rfl

theorem beforeUS_bare : beforeUS a = a := by
  rw [← List.append_nil a, beforeUS_append h]; rfl

theorem afterUS_bare : afterUS a = none := by
  rw [← List.append_nil a, afterUS_append h]; rfl

theorem beforeUS_sfx (t : Str) : beforeUS (a ++ '_' :: t) = a := by
  rw [beforeUS_append h]; exact List.append_nil a

theorem afterUS_sfx (t : Str) : afterUS (a ++ '_' :: t) = some t :=
  afterUS_append h _

theorem parseReport_bare : parseReport a = (upper a, 0) := by
  simp only [parseReport, beforeUS_bare h, afterUS_bare h]

theorem parseReport_name_num (n : Nat) : parseReport (a ++ '_' :: natStr n) = (upper a, n) := by
  simp only [parseReport, beforeUS_sfx h, afterUS_sfx h, toNat_natStr]

end

theorem splitOn_bare {c : Char} {s : Str} (h : c ∉ s) : splitOn c s = (s, []) := by
  induction s with
  | nil => rfl
  | cons x xs ih =>
    rw [List.mem_cons, not_or] at h
    simp [splitOn, Ne.symm h.1, ih h.2]

theorem splitOn_sfx {c : Char} {a : Str} (h : c ∉ a) (t : Str) :
    splitOn c (a ++ c :: t) = (a, (splitOn c t).1 :: (splitOn c t).2) := by
  induction a with
  | nil => simp [splitOn]
  | cons x xs ih =>
    rw [List.mem_cons, not_or] at h
    simp [splitOn, Ne.symm h.1, ih h.2]

theorem lastPart_splitOn_bare {c : Char} {s : Str} (h : c ∉ s) : lastPart (splitOn c s) = s := by
  rw [splitOn_bare h, lastPart]

theorem append_us_inj {a b x y : Str} (ha : '_' ∉ a) (hb : '_' ∉ b) (h : a ++ '_' :: x = b ++ '_' :: y) :
    a = b ∧ x = y := by
  have h1 := congrArg beforeUS h
  have h2 := congrArg afterUS h
  rw [beforeUS_sfx ha, beforeUS_sfx hb] at h1
  rw [afterUS_sfx ha, afterUS_sfx hb] at h2
  exact ⟨h1, Option.some.inj h2⟩

theorem classify_digits {s : Str} (h : isDigitStr s = true) : classify (some s) = .num (toNat s) := by
  cases s with
  | nil => cases h
  | cons c cs => simp only [classify, if_neg (isDigitStr_ne_star h), if_pos h]

theorem alpha_not_digits {c : Char} (h : c.isAlpha = true) (cs : Str) : isDigitStr (c :: cs) = false :=
  Bool.eq_false_iff.2 fun hd => by
    rw [digit_not_alpha (isDigitStr_cons.1 hd).1] at h
    cases h

theorem alpha_ne_star {c : Char} (h : c.isAlpha = true) (cs : Str) : c :: cs ≠ ['*'] := by
  intro e
  injection e with e _
  rw [e] at h
  cases h

theorem classify_alpha {c : Char} (h : c.isAlpha = true) (cs : Str) : classify (some (c :: cs)) = .cls (c :: cs) := by
  simp only [classify, if_neg (alpha_ne_star h cs), alpha_not_digits h cs, if_pos h, Bool.false_eq_true, if_false]

end Shelx.C17
