/-
  C05 — the character-level functions of the model and the specification (ShelxModel/C05.lean) with their equations; the
  code's `rstrip().endswith('=')` / `rpartition('=')` in terms of the specification's `trailingEq` / `body`; `Char.toUpper`,
  of which core has no facts, from the character ranges (also for C17). Core Lean only.
-/
import ShelxModel.C05

namespace Shelx.C05

theorem ws_blank : ws ' ' = true := by decide
theorem ws_eq : ws '=' = false := by decide
theorem ws_bang : ws '!' = false := by decide

theorem ws_ne {c d : Char} (hc : ws c = true) (hd : ws d = false) : c ≠ d := fun e => by simp [e, hd] at hc

theorem allWs_cons (c : Char) (l : List Char) : allWs (c :: l) = (ws c && allWs l) := rfl

theorem allWs_append (a b : List Char) : allWs (a ++ b) = (allWs a && allWs b) := List.all_append

theorem consTok_ne_nil (c : Char) (ts : List Token) : consTok c ts ≠ [] := by
  cases ts <;> simp [consTok]

theorem consTok_append (c : Char) (t u : List Token) (h : t ≠ []) : consTok c (t ++ u) = consTok c t ++ u := by
  cases t with
  | nil => exact absurd rfl h
  | cons a b => rfl

theorem split_cons_ws (c : Char) (cs : List Char) (h : ws c = true) : split (c :: cs) = split cs := by
  simp [split, h]

theorem split_eq_nil (x : List Char) : split x = [] ↔ allWs x = true := by
  induction x with
  | nil => simp [split, allWs]
  | cons c x ih =>
    by_cases hc : ws c = true
    · simp [split, allWs_cons, hc, ih]
    · have hc : ws c = false := by simpa using hc
      simp only [split, allWs_cons, hc, Bool.false_eq_true, ↓reduceIte, Bool.false_and, iff_false]
      split <;> simp [consTok_ne_nil]

theorem allWs_of_split_nil (x : List Char) : split x = [] → allWs x = true := (split_eq_nil x).mp

theorem startsWs_of_allWs {w : List Char} (h : allWs w = true) : startsWs w = true := by
  cases w with
  | nil => rfl
  | cons c w => rw [allWs_cons, Bool.and_eq_true] at h; exact h.1

theorem split_append (a b : List Char) (hb : startsWs b = true) : split (a ++ b) = split a ++ split b := by
  induction a with
  | nil => rfl
  | cons c a ih =>
    have hs : startsWs (a ++ b) = startsWs a := by
      cases a with
      | nil => exact hb
      | cons d a => rfl
    simp only [List.cons_append, split, ih, hs]
    split
    · rfl
    · split
      · rfl
      · rename_i hn
        -- `a` starts with a character that is not white space, so it has a token for `c` to go onto
        exact consTok_append c _ _ fun e => hn (startsWs_of_allWs (allWs_of_split_nil a e))

theorem split_append_allWs (u w : List Char) (h : allWs w = true) : split (u ++ w) = split u := by
  rw [split_append u w (startsWs_of_allWs h), (split_eq_nil w).mpr h, List.append_nil]

theorem split_token (k : List Char) (hne : k ≠ []) (h : ∀ c ∈ k, ws c = false) : split k = [k] := by
  induction k with
  | nil => exact absurd rfl hne
  | cons c k ih =>
    cases k with
    | nil => simp [split, startsWs, h]
    | cons d k =>
      rw [split, ih (by simp) fun x hx => h x (List.mem_cons_of_mem _ hx)]
      simp [h, startsWs, consTok]

/-- `a` holds no `!`: it lies in front of any comment, so `stripComment` keeps it whole (`stripComment_append`) -/
def noBang (a : List Char) : Prop := ∀ c ∈ a, c ≠ '!'

instance (a : List Char) : Decidable (noBang a) := by unfold noBang; infer_instance

theorem stripComment_append (a x : List Char) (h : noBang a) : stripComment (a ++ x) = a ++ stripComment x :=
  List.takeWhile_append_of_pos fun c hc => bne_iff_ne.mpr (h c hc)

theorem stripComment_noBang (l : List Char) : noBang (stripComment l) :=
  fun c hc => bne_iff_ne.mp (List.all_eq_true.mp List.all_takeWhile c hc)

theorem stripComment_idem (l : List Char) : stripComment (stripComment l) = stripComment l := by
  simpa [stripComment] using stripComment_append (stripComment l) [] (stripComment_noBang l)

theorem content_append (a x : List Char) (h : noBang a) : content (a ++ x) = a ++ content x :=
  stripComment_append a x h

theorem content_cons_ws (s : Char) (x : List Char) (hs : ws s = true) : content (s :: x) = s :: content x :=
  content_append [s] x fun _ hc => List.mem_singleton.mp hc ▸ ws_ne hs ws_bang

theorem trailingEq_cons_ws (s : Char) (x : List Char) (hs : ws s = true) : trailingEq (s :: x) = trailingEq x := by
  simp [trailingEq, ws_ne hs ws_eq]

theorem body_cons_ws (s : Char) (x : List Char) (hs : ws s = true) : body (s :: x) = s :: body x := by
  simp [body, ws_ne hs ws_eq]

theorem trailingEq_allWs (w : List Char) (h : allWs w = true) : trailingEq w = false := by
  induction w with
  | nil => rfl
  | cons c w ih =>
    rw [allWs_cons, Bool.and_eq_true] at h
    rw [trailingEq_cons_ws c w h.1, ih h.2]

theorem body_of_not_trailing (l : List Char) (h : trailingEq l = false) : body l = l := by
  induction l with
  | nil => rfl
  | cons c cs ih =>
    rw [trailingEq] at h
    split at h
    · cases h
    · rename_i hm
      rw [body, if_neg hm, ih h]

theorem trailingEq_append (a x : List Char) :
    trailingEq (a ++ x) = if allWs x then trailingEq a else trailingEq x := by
  induction a with
  | nil => cases h : allWs x <;> simp [trailingEq, trailingEq_allWs, h]
  | cons c a ih => cases h : allWs x <;> simp [trailingEq, allWs_append, h, ih]

theorem body_append (a x : List Char) :
    body (a ++ x) = if allWs x then body a ++ (if trailingEq a then [] else x) else a ++ body x := by
  induction a with
  | nil => cases h : allWs x <;> simp [body, trailingEq, body_of_not_trailing, trailingEq_allWs, h]
  | cons c a ih =>
    cases h : allWs x <;> cases hm : (c == '=' && allWs a) <;> simp [body, trailingEq, allWs_append, h, hm, ih]

/-- a prefix that the marker cannot fall into passes through `trailingEq` and `body` -/
theorem marker_append_right (a y : List Char) (h : allWs y = true → trailingEq a = false) :
    trailingEq (a ++ y) = trailingEq y ∧ body (a ++ y) = a ++ body y := by
  rw [trailingEq_append, body_append]
  cases hy : allWs y with
  | false => exact ⟨rfl, rfl⟩
  | true =>
    have hty := trailingEq_allWs y hy
    simp [h hy, hty, body_of_not_trailing a (h hy), body_of_not_trailing y hty]

theorem trailingEq_iff (x : List Char) :
    trailingEq x = true ↔ ∃ a w, allWs w = true ∧ x = a ++ '=' :: w := by
  constructor
  · intro h
    induction x with
    | nil => cases h
    | cons c x ih =>
      rw [trailingEq] at h
      split at h
      · rename_i hm
        rw [Bool.and_eq_true, beq_iff_eq] at hm
        exact ⟨[], x, hm.2, by rw [hm.1]; rfl⟩
      · obtain ⟨a, w, hw, rfl⟩ := ih h
        exact ⟨c :: a, w, hw, rfl⟩
  · rintro ⟨a, w, hw, rfl⟩
    simp [trailingEq_append, allWs_cons, ws_eq, trailingEq, hw]

theorem body_marker (a w : List Char) (hw : allWs w = true) : body (a ++ '=' :: w) = a := by
  simp [body_append, allWs_cons, ws_eq, body, hw]

theorem body_prefix (x : List Char) : body x <+: x := by
  cases h : trailingEq x with
  | false => rw [body_of_not_trailing x h]; exact List.prefix_refl x
  | true =>
    obtain ⟨a, w, hw, rfl⟩ := (trailingEq_iff x).mp h
    rw [body_marker a w hw]; exact List.prefix_append a _

theorem beforeLastEq_marker (a w : List Char) (hw : '=' ∉ w) : beforeLastEq (a ++ '=' :: w) = a := by
  induction a with
  | nil => simp [beforeLastEq, hw]
  | cons c a ih => simp [beforeLastEq, ih]

theorem rstrip_concat (l : List Char) (c : Char) : rstrip (l ++ [c]) = if ws c then rstrip l else l ++ [c] := by
  simp only [rstrip, List.reverse_append, List.reverse_singleton, List.singleton_append, List.dropWhile_cons]
  split <;> simp

/-- the code's test for the marker, `rstrip().endswith('=')`, is the specification's -/
theorem endsWithEq_rstrip (l : List Char) : endsWithEq (rstrip l) = trailingEq l := by
  rw [← List.reverse_reverse l]
  induction l.reverse with
  | nil => rfl
  | cons c r ih =>
    rw [List.reverse_cons, rstrip_concat, trailingEq_append]
    cases hc : ws c with
    | true => simpa [allWs, hc] using ih
    | false => simp [allWs, hc, endsWithEq, trailingEq]; rfl

theorem mtNew_eq_isContLine (l : Line) : mtNew l = isContLine l := by
  simp [mtNew, isContLine, content, endsWithEq_rstrip]

theorem startsWs_content (x : List Char) (h : startsWs x = true) : startsWs (content x) = true := by
  cases x with
  | nil => rfl
  | cons s x => rw [content_cons_ws s x h]; exact h

theorem startsWs_body (x : List Char) (h : startsWs x = true) : startsWs (body x) = true := by
  cases x with
  | nil => rfl
  | cons s x => rw [body_cons_ws s x h]; exact h

theorem indented_cons (c : Char) (l : List Char) : indented (c :: l) = (c == ' ') := by
  by_cases h : c = ' ' <;> simp [indented, h]

theorem startsWs_of_indented (l : Line) (h : indented l = true) : startsWs l = true := by
  cases l with
  | nil => cases h
  | cons c l =>
    rw [indented_cons, beq_iff_eq] at h
    rw [h]; rfl

theorem plainRem_indented (l : List Char) : plainRem (' ' :: l) = false := by
  simp [plainRem, upper, List.take_succ_cons]

theorem upperHead_append (t u : List Token) (h : t ≠ []) : upperHead (t ++ u) = upperHead t ++ u := by
  cases t with
  | nil => exact absurd rfl h
  | cons a b => rfl

theorem upperHead_eq_nil (t : List Token) : upperHead t = [] ↔ t = [] := by
  cases t <;> simp [upperHead]

theorem isLower_iff {c : Char} : c.isLower = true ↔ 'a' ≤ c ∧ c ≤ 'z' := by
  simp only [Char.isLower, ge_iff_le, Bool.and_eq_true, decide_eq_true_eq, Char.le_def]

theorem isUpper_iff {c : Char} : c.isUpper = true ↔ 'A' ≤ c ∧ c ≤ 'Z' := by
  simp only [Char.isUpper, ge_iff_le, decide_eq_true_eq, Char.le_def]

theorem not_lower_of_upper {c : Char} (h : c.isUpper = true) : c.isLower = false :=
  Bool.eq_false_iff.2 fun hl => absurd (Char.le_trans (isLower_iff.1 hl).1 (isUpper_iff.1 h).2) (by decide)

theorem not_lower_of_not_alpha {c : Char} (h : c.isAlpha = false) : c.isLower = false :=
  (Bool.or_eq_false_iff.1 h).2

theorem toUpper_of_not_lower {c : Char} (h : c.isLower = false) : c.toUpper = c :=
  dif_neg fun hc => Bool.eq_false_iff.1 h (isLower_iff.2 hc)

/-- `toUpper` subtracts 32 (it adds `'A' - 'a'`, which wraps), and that takes `a..z` to `A..Z` -/
theorem isUpper_toUpper {c : Char} (h : c.isLower = true) : c.toUpper.isUpper = true := by
  have hc : 'a'.val ≤ c.val ∧ c.val ≤ 'z'.val := isLower_iff.1 h
  have e : c.toUpper.val = c.val - 32 := by
    rw [Char.toUpper, dif_pos hc, UInt32.sub_eq_add_neg c.val 32]; rfl
  have h32 : (32 : UInt32) ≤ c.val := UInt32.le_trans (by decide) hc.1
  rw [isUpper_iff, Char.le_def, Char.le_def, e, UInt32.le_iff_toNat_le, UInt32.le_iff_toNat_le,
    UInt32.toNat_sub_of_le _ _ h32]
  exact ⟨Nat.le_sub_of_add_le (UInt32.le_iff_toNat_le.1 hc.1), Nat.sub_le_sub_right (UInt32.le_iff_toNat_le.1 hc.2) 32⟩

theorem toUpper_not_lower (c : Char) : c.toUpper.isLower = false := by
  cases h : c.isLower with
  | true => exact not_lower_of_upper (isUpper_toUpper h)
  | false => rw [toUpper_of_not_lower h, h]

theorem toUpper_idem (c : Char) : c.toUpper.toUpper = c.toUpper := toUpper_of_not_lower (toUpper_not_lower c)

theorem toUpper_eq_iff {c x : Char} (hx : x.isAlpha = false) : c.toUpper = x ↔ c = x := by
  constructor
  · intro h
    cases hc : c.isLower with
    | false => rwa [toUpper_of_not_lower hc] at h
    | true =>
      have hu := isUpper_toUpper hc
      rw [h] at hu
      rw [Char.isAlpha, hu] at hx
      cases hx
  · rintro rfl
    exact toUpper_of_not_lower (not_lower_of_not_alpha hx)

end Shelx.C05
