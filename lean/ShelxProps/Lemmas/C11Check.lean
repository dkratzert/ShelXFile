/-
  C11 — the Bool checkers say what they should (spec side only: nothing here depends on the table regenerated from
  cards.py): the evaluator `groupCheckB` on integer numerators (`SOp`, `toS`, `ofS`, `compS` of ShelxModel/C11Core.lean)
  and its evaluation over the table, `settings_spec`; `nodupB` and `validB` of C11Core. Of these the driver
  (ShelxModel/Drv/C11.lean) runs `validB` alone, for the `valid` flag of its `expand` answer; `modelOK` also calls
  `nodupB`, but nothing runs it: it is proved for the table (`settings_modelOK`).
-/
import ShelxModel.C11Core
import ShelxModel.C11Table
import ShelxProps.Lemmas.C11Closed
import Mathlib.Tactic.Ring
import Mathlib.Tactic.Push

namespace Shelx.C11
open List

theorem strict_eq {β : Type} (n : Nat) (f : Nat → β) : strict n f = f n := by cases n <;> rfl

theorem strictInt_eq {β : Type} (i : Int) (f : Int → β) : strictInt i f = f i := by
  cases i <;> simp [strictInt, strict_eq]

theorem forceS_eq {β : Type} (s : SOp) (k : SOp → β) : forceS s k = k s := by
  obtain ⟨⟨a11, a12, a13, a21, a22, a23, a31, a32, a33⟩, x, y, z⟩ := s
  simp [forceS, strictInt_eq]

/-- the list with every entry evaluated -/
def forceAll {β : Type} : List SOp → (List SOp → β) → β
  | [], k => k []
  | s :: l, k => forceS s fun s' => forceAll l fun l' => k (s' :: l')

theorem forceAll_eq {β : Type} (l : List SOp) (k : List SOp → β) : forceAll l k = k l := by
  induction l generalizing k with
  | nil => rfl
  | cons s l ih => simp [forceAll, forceS_eq, ih]

theorem comp_ofS (D : Nat) (a b : SOp) : comp (ofS D a) (ofS D b) = ofS D (compS a b) := by
  obtain ⟨⟨a11, a12, a13, a21, a22, a23, a31, a32, a33⟩, ax, ay, az⟩ := a
  obtain ⟨mb, bx, b_y, bz⟩ := b
  simp only [comp, ofS, compS, Mat.mulVec, Vec.add, Op.mk.injEq, Vec.mk.injEq, true_and]
  refine ⟨?_, ?_, ?_⟩ <;> push_cast <;> ring

/-- `x ≡ c ∘ p` modulo ℤ³ for some `p ∈ P` and some translation `c ∈ C` -/
def memProdS (D : Nat) (P C : List SOp) (x : SOp) : Bool :=
  P.any fun p => decide (x.m = p.m) && C.any fun c =>
    (x.x - p.x - c.x) % D == 0 && (x.y - p.y - c.y) % D == 0 && (x.z - p.z - c.z) % D == 0

theorem div_eq_add_int {D : Nat} (hD : 0 < D) {a b c : Int} (h : (a - b - c) % D = 0) :
    ∃ k : Int, (a : Rat) / D = b / D + c / D + k := by
  obtain ⟨k, hk⟩ := Int.dvd_of_emod_eq_zero h
  have hD' : (D : Rat) ≠ 0 := by exact_mod_cast hD.ne'
  refine ⟨k, ?_⟩
  rw [← add_div, ← sub_eq_iff_eq_add', ← sub_div, div_eq_iff hD']
  exact_mod_cast (by rw [mul_comm, ← hk]; ring : a - (b + c) = k * D)

theorem memProdS_sound {D : Nat} (hD : 0 < D) {P C : List SOp} {x : SOp} (h : memProdS D P C x = true) :
    ∃ p ∈ P, ∃ c ∈ C, cls (ofS D x) = cls (comp (transl (ofS D c).t) (ofS D p)) := by
  simp only [memProdS, List.any_eq_true, Bool.and_eq_true, decide_eq_true_eq, beq_iff_eq] at h
  obtain ⟨p, hp, hm, c, hc, ⟨hx, hy⟩, hz⟩ := h
  refine ⟨p, hp, c, hc, ?_⟩
  rw [comp_transl, cls_eq_iff, fractV_eq_iff]
  obtain ⟨kx, hx⟩ := div_eq_add_int hD hx
  obtain ⟨ky, hy⟩ := div_eq_add_int hD hy
  obtain ⟨kz, hz⟩ := div_eq_add_int hD hz
  exact ⟨hm, kx, ky, kz, hx, hy, hz⟩

/-- the hypotheses of `nodup_fullGroupWith` and `closed_fullGroup` for `LATT N / SYMM S`, computed on numerators
    over `D`: the operators `i ∘ s` (`PS`) have pairwise different rotation parts, and every `s ∘ g` (`s ∈ id :: S`,
    `g` a generator) is some `c ∘ i ∘ s'` modulo ℤ³. The first line checks that the numerators represent the operators
    exactly. The lists are forced before they are used (the kernel evaluates by name). -/
def groupCheckB (D : Nat) (N : Int) (S : List Op) : Bool :=
  decide (0 < D) && (ident :: gensOf N S).all (fun o => decide (ofS D (toS D o) = o)) &&
  forceAll ((ident :: S).map (toS D)) fun SS =>
  forceAll ((gensOf N S).map (toS D)) fun GS =>
  forceAll ((Vec.zero :: specCentring N).map fun c => toS D (transl c)) fun CS =>
  forceAll (SS.flatMap fun s => (signs (centricOf N)).map fun i => compS (toS D i) s) fun PS =>
  decide ((PS.map (·.m)).Nodup) &&
  SS.all fun s => GS.all fun g => forceS (compS s g) fun x => memProdS D PS CS x

theorem groupCheckB_sound {D : Nat} {N : Int} {S : List Op} (h : groupCheckB D N S = true) :
    ((fullGroup N S).map cls).Nodup ∧ ClosedSetting N S := by
  simp only [groupCheckB, forceAll_eq, forceS_eq, Bool.and_eq_true, decide_eq_true_eq, List.all_eq_true,
    List.mem_map, forall_exists_index, and_imp, forall_apply_eq_imp_iff₂] at h
  obtain ⟨⟨hD, hE⟩, hR, hc⟩ := h
  refine ⟨nodup_fullGroupWith (specCentring_group N) ?_, closed_fullGroup N S fun s hs g hg => ?_⟩
  · simp only [List.map_flatMap, List.flatMap_map, List.map_map] at hR
    -- `(compS (toS D i) (toS D s)).m` and `(comp i s).m` are both `i.m.mul s.m` by definition
    exact hR
  · obtain ⟨p, hp, c, hc, e⟩ := memProdS_sound hD (hc s hs g hg)
    simp only [List.mem_flatMap, List.mem_map] at hp hc
    obtain ⟨_, ⟨s', hs', rfl⟩, i, hi, rfl⟩ := hp
    obtain ⟨c₀, hc₀, rfl⟩ := hc
    rw [← comp_ofS, ← comp_ofS, hE s (factor_mem_gens (.inl hs)), hE g (List.mem_cons_of_mem _ hg),
      hE (transl c₀) (factor_mem_gens (.inr (.inl (List.mem_map_of_mem hc₀)))), hE i (factor_mem_gens (.inr (.inr hi))),
      hE s' (factor_mem_gens (.inl hs'))] at e
    exact mem_fullGroupWith_cls.mpr ⟨s', hs', c₀, hc₀, i, hi, e⟩

def SpecOK (e : Setting) : Prop :=
  ValidSetting e.N e.S ∧ Closed (fullGroup e.N e.S) ∧ (fullGroup e.N e.S).length = e.order

/-- one kernel evaluation over the whole table (every translation in it is a multiple of 1/24) -/
theorem settings_spec : ∀ e ∈ settings, SpecOK e := by
  have h : ∀ e ∈ settings, (1 ≤ e.N.natAbs ∧ e.N.natAbs ≤ 7) ∧
      (fullGroup e.N e.S).length = e.order ∧ groupCheckB 24 e.N e.S = true := by
    simp only [fullGroup_length]  -- the length by its formula: the spec lists are never built
    decide +kernel
  intro e he
  obtain ⟨hN, ho, hc⟩ := h e he
  obtain ⟨hnd, hcl⟩ := groupCheckB_sound hc
  exact ⟨⟨hN, hnd⟩, hcl, ho⟩

theorem withKeys_eq {β : Type} (G : List Op) (k : List (Nat × Op) → β) :
    withKeys G k = k (G.map fun o => (hashOp (cls o), cls o)) := by
  induction G generalizing k with
  | nil => rfl
  | cons o l ih => simp [withKeys, strict_eq, ih]

theorem memK_keys (l : List Op) (p : Op) :
    memK (l.map fun o => (hashOp o, o)) (hashOp p) p = true ↔ p ∈ l := by
  simp only [memK, List.any_eq_true, Bool.and_eq_true, decide_eq_true_eq, List.mem_map]
  constructor
  · rintro ⟨e, ⟨o, ho, rfl⟩, _, rfl⟩; exact ho
  · intro hp; exact ⟨_, ⟨p, hp, rfl⟩, by simp, rfl⟩

theorem nodupK_keys (l : List Op) : nodupK (l.map fun o => (hashOp o, o)) = true ↔ l.Nodup := by
  induction l with
  | nil => simp [nodupK]
  | cons a l ih =>
    simp only [List.map_cons, nodupK, Bool.and_eq_true, Bool.not_eq_true', ← Bool.not_eq_true, memK_keys, ih,
      List.nodup_cons]

theorem nodupB_iff (G : List Op) : nodupB G = true ↔ (G.map cls).Nodup := by
  rw [nodupB, withKeys_eq, ← nodupK_keys, List.map_map]
  rfl

/-- what the driver reports as `valid` -/
theorem validB_iff (N : Int) (S : List Op) : validB N S = true ↔ ValidSetting N S := by
  simp only [validB, ValidSetting, Bool.and_eq_true, decide_eq_true_eq, nodupB_iff]

end Shelx.C11
