/-
  C12 — the 3×3 algebra of ShelxModel/C12.lean (`Matrix`, `Array` of dsrmath.py) over ℝ: the equations the property
  theorems use instead of unfolding the operations entry by entry.
-/
import ShelxModel.C12
import Mathlib.Tactic.Ring
import Mathlib.Data.Real.Basic

namespace Shelx.C12

theorem transpose_transpose (a : M3 ℝ) : transpose (transpose a) = a := rfl

theorem mulVec_mulMM (a b : M3 ℝ) (x : V3 ℝ) : mulVec (mulMM a b) x = mulVec a (mulVec b x) := by
  simp only [mulVec, mulMM, mulRR, transpose, col0, col1, col2, dot]
  congr 1 <;> ring1

theorem ext_mulVec {a b : M3 ℝ} (h : ∀ x, mulVec a x = mulVec b x) : a = b := by
  have h0 := h ⟨1, 0, 0⟩
  have h1 := h ⟨0, 1, 0⟩
  have h2 := h ⟨0, 0, 1⟩
  obtain ⟨⟨a00, a01, a02⟩, ⟨a10, a11, a12⟩, ⟨a20, a21, a22⟩⟩ := a
  obtain ⟨⟨b00, b01, b02⟩, ⟨b10, b11, b12⟩, ⟨b20, b21, b22⟩⟩ := b
  simp only [mulVec, dot, mul_one, mul_zero, add_zero, zero_add, V3.mk.injEq] at h0 h1 h2
  simp only [h0, h1, h2]

theorem mulMM_assoc (a b c : M3 ℝ) : mulMM (mulMM a b) c = mulMM a (mulMM b c) :=
  ext_mulVec fun x => by simp only [mulVec_mulMM]

theorem transpose_mulMM (a b : M3 ℝ) : transpose (mulMM a b) = mulMM (transpose b) (transpose a) := by
  simp only [mulMM, mulRR, transpose, col0, col1, col2, dot]
  congr 1 <;> congr 1 <;> ring1

theorem mulVec_one (x : V3 ℝ) : mulVec one3 x = x := by
  cases x; simp [mulVec, one3, dot]

theorem mulVec_zero (a : M3 ℝ) : mulVec a ⟨0, 0, 0⟩ = ⟨0, 0, 0⟩ := by
  simp [mulVec, dot]

theorem mulVec_cancel {a b : M3 ℝ} (h : mulMM a b = one3) (x : V3 ℝ) : mulVec a (mulVec b x) = x := by
  rw [← mulVec_mulMM, h, mulVec_one]

theorem mulVec_ne_zero {b bi : M3 ℝ} (h : mulMM bi b = one3) {x : V3 ℝ} (hx : x ≠ ⟨0, 0, 0⟩) :
    mulVec b x ≠ ⟨0, 0, 0⟩ :=
  fun h0 => hx (by rw [← mulVec_cancel h x, h0, mulVec_zero])

theorem mulVec_vsub (m : M3 ℝ) (x y : V3 ℝ) : mulVec m (vsub x y) = vsub (mulVec m x) (mulVec m y) := by
  simp only [mulVec, vsub, dot]; congr 1 <;> ring1

theorem dot_mulVec (a : M3 ℝ) (x y : V3 ℝ) : dot x (mulVec a y) = dot (mulVec (transpose a) x) y := by
  simp only [mulVec, transpose, col0, col1, col2, dot]; ring1

theorem quad_congruence (a u : M3 ℝ) (x : V3 ℝ) :
    quad (mulMM (mulMM a u) (transpose a)) x = quad u (mulVec (transpose a) x) := by
  simp only [quad, mulVec_mulMM, dot_mulVec a]

theorem transpose_congruence (a u : M3 ℝ) :
    transpose (mulMM (mulMM a u) (transpose a)) = mulMM (mulMM a (transpose u)) (transpose a) := by
  simp only [transpose_mulMM, transpose_transpose, mulMM_assoc]

theorem norm2_mulVec (m : M3 ℝ) (x : V3 ℝ) : norm2 (mulVec m x) = quad (mulMM (transpose m) m) x := by
  simp only [quad, norm2, mulVec_mulMM, dot_mulVec (transpose m), transpose_transpose]

theorem det_transpose (a : M3 ℝ) : det (transpose a) = det a := by
  simp only [det, transpose, col0, col1, col2]; ring1

theorem det_mulMM (a b : M3 ℝ) : det (mulMM a b) = det a * det b := by
  simp only [det, mulMM, mulRR, transpose, col0, col1, col2, dot]; ring1

theorem det_diag (n : V3 ℝ) : det (diag n) = n.x * n.y * n.z := by
  simp only [det, diag]; ring1

/-- every entry of the product is a cofactor expansion over `det m`: the determinant itself on the diagonal, 0 beside it -/
theorem inversed_mul (m : M3 ℝ) (hd : det m ≠ 0) : mulMM (inversed m) m = one3 := by
  obtain ⟨⟨m1, m2, m3⟩, ⟨m4, m5, m6⟩, ⟨m7, m8, m9⟩⟩ := m
  simp only [det] at hd
  simp only [mulMM, mulRR, transpose, col0, col1, col2, inversed, det, dot, one3, div_mul_eq_mul_div, ← add_div]
  congr 1 <;> congr 1 <;> (rw [div_eq_iff hd]; ring1)

theorem mul_inversed (m : M3 ℝ) (hd : det m ≠ 0) : mulMM m (inversed m) = one3 := by
  obtain ⟨⟨m1, m2, m3⟩, ⟨m4, m5, m6⟩, ⟨m7, m8, m9⟩⟩ := m
  simp only [det] at hd
  simp only [mulMM, mulRR, transpose, col0, col1, col2, inversed, det, dot, one3, ← mul_div_assoc, ← add_div]
  congr 1 <;> congr 1 <;> (rw [div_eq_iff hd]; ring1)

end Shelx.C12
