/-
  C18 — what is true of the CIF reader (`denoteComp`, `denoteCif`) by itself: the row denoted by a text that
  continues with a sign is a sum, and comma-free parts joined by commas are read part by part.
-/
import ShelxModel.C18

namespace Shelx.C18

def Comp.add (a b : Comp) : Comp := ⟨a.cx + b.cx, a.cy + b.cy, a.cz + b.cz, a.t + b.t⟩

theorem Comp.add_zero (a : Comp) : a.add ⟨0, 0, 0, 0⟩ = a := by
  simp [Comp.add, Rat.add_zero]

theorem lower_append (a b : List Char) : lower (a ++ b) = lower a ++ lower b := List.map_append

theorem splitTerms_append (a b : List Char) (hb : (splitTerms b).1 = []) :
    splitTerms (a ++ b) = ((splitTerms a).1, (splitTerms a).2 ++ (splitTerms b).2) := by
  induction a with
  | nil => exact Prod.ext hb rfl
  | cons c a ih =>
    simp only [List.cons_append, splitTerms, ih]
    split
    · rfl
    · split <;> rfl

/-- the signed chunks `denoteComp` sums, blanks and case removed -/
def chunks (s : List Char) : List (Int × List Char) :=
  let br := splitTerms (lower (s.filter (· ≠ ' ')))
  if br.1 = [] then br.2 else (1, br.1) :: br.2

theorem chunks_append (a b : List Char) (hb : (splitTerms (lower (b.filter (· ≠ ' ')))).1 = []) :
    chunks (a ++ b) = chunks a ++ chunks b := by
  simp only [chunks]
  rw [List.filter_append, lower_append, splitTerms_append _ _ hb, if_pos hb]
  split <;> rfl

def sumTerms (init : Option Comp) (chunks : List (Int × List Char)) : Option Comp :=
  chunks.foldl (fun acc ch => acc.bind fun a => addTerm a ch.1 ch.2) init

theorem sumTerms_append (init : Option Comp) (l l' : List (Int × List Char)) :
    sumTerms init (l ++ l') = sumTerms (sumTerms init l) l' := List.foldl_append

theorem denoteComp_eq_some {s : List Char} {c : Comp} :
    denoteComp s = some c ↔ chunks s ≠ [] ∧ sumTerms (some ⟨0, 0, 0, 0⟩) (chunks s) = some c := by
  show (if chunks s = [] then none else sumTerms _ (chunks s)) = some c ↔ _
  split <;> simp [*]

theorem addTerm_add (a b : Comp) (sg : Int) (body : List Char) :
    addTerm (a.add b) sg body = (addTerm b sg body).map a.add := by
  unfold addTerm
  split
  · simp [Comp.add, Int.add_assoc]
  · simp [Comp.add, Int.add_assoc]
  · simp [Comp.add, Int.add_assoc]
  · cases parseNumber body <;> simp [Comp.add, Rat.add_assoc]

theorem sumTerms_add (a : Comp) (init : Option Comp) (chunks : List (Int × List Char)) :
    sumTerms (init.map a.add) chunks = (sumTerms init chunks).map a.add := by
  induction chunks generalizing init with
  | nil => rfl
  | cons ch t ih =>
    refine Eq.trans ?_ (ih (init.bind fun b => addTerm b ch.1 ch.2))
    cases init with
    | none => rfl
    | some b => exact congrArg (sumTerms · t) (addTerm_add a b ch.1 ch.2)

/-- `hs`: `b` begins with a sign (nothing stands before its first sign) -/
theorem denoteComp_append {a b : List Char} {ca cb : Comp} (ha : denoteComp a = some ca) (hb : denoteComp b = some cb)
    (hs : (splitTerms (lower (b.filter (· ≠ ' ')))).1 = []) : denoteComp (a ++ b) = some (ca.add cb) := by
  rw [denoteComp_eq_some] at ha hb ⊢
  rw [chunks_append a b hs]
  refine ⟨fun h => ha.1 (List.append_eq_nil_iff.1 h).1, ?_⟩
  rw [sumTerms_append, ha.2]
  simpa [ca.add_zero, hb.2] using sumTerms_add ca (some ⟨0, 0, 0, 0⟩) (chunks b)

theorem denoteComp_blank (s : List Char) : denoteComp (' ' :: s) = denoteComp s := by
  simp [denoteComp, List.filter]

theorem splitComma_ne_nil (s : List Char) : splitComma s ≠ [] := by
  cases s with
  | nil => simp [splitComma]
  | cons c s =>
    simp only [splitComma]
    cases splitComma s with
    | nil => simp
    | cons h t => by_cases hc : c = ',' <;> simp [hc]

theorem splitComma_nocomma (s : List Char) (h : ',' ∉ s) : splitComma s = [s] := by
  induction s with
  | nil => rfl
  | cons c s ih =>
    rw [List.mem_cons, not_or] at h
    simp [splitComma, ih h.2, Ne.symm h.1]

theorem splitComma_append (a rest : List Char) (h : ',' ∉ a) :
    splitComma (a ++ ',' :: rest) = a :: splitComma rest := by
  induction a with
  | nil =>
    simp only [List.nil_append, splitComma]
    cases hr : splitComma rest with
    | nil => exact absurd hr (splitComma_ne_nil rest)
    | cons x t => simp
  | cons c a ih =>
    rw [List.mem_cons, not_or] at h
    simp [splitComma, ih h.2, Ne.symm h.1]

theorem denoteCif_join3 {a b c : List Char} {ra rb rc : Comp} (ha : ',' ∉ a) (hb : ',' ∉ b) (hc : ',' ∉ c)
    (hda : denoteComp a = some ra) (hdb : denoteComp b = some rb) (hdc : denoteComp c = some rc) :
    denoteCif (join3 a b c) = some ⟨ra, rb, rc⟩ := by
  have hb' : ',' ∉ ' ' :: b := by simpa using hb
  have hc' : ',' ∉ ' ' :: c := by simpa using hc
  have hsplit : splitComma (join3 a b c) = [a, ' ' :: b, ' ' :: c] := by
    unfold join3
    rw [splitComma_append a _ ha, ← List.cons_append, splitComma_append _ _ hb', splitComma_nocomma _ hc']
  simp [denoteCif, hsplit, denoteComp_blank, hda, hdb, hdc]

end Shelx.C18
