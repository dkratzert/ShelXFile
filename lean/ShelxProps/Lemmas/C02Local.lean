/-
  C02 — handlers that do not look at the context.

  Most handlers of `_parse_cards` (constructor included) test neither `lastcard`, nor a parser attribute, nor the
  diagnostic mode, and set none of them.  Such a handler accepts a line in one context and mode iff it accepts it in
  every other, and leaves the context as it met it (`runBranch_ctxFree`); so the sweep over the syntax table runs it
  once per form.  Any table.
-/
import ShelxModel.C02

namespace Shelx.C02

/-- `k` does not read `lastcard` or a parser attribute, nor — unless the mode is held fixed — the mode -/
def Cond.ctxFree (fixMode : Bool) : Cond → Bool
  | .modeIn _ => fixMode
  | .lastEq _ | .lastNe _ | .lastIn _ | .lastNotIn _ | .flagOn _ | .flagOff _ => false
  | _ => true

def Act.ctxFree : Act → Bool
  | .setLast _ | .setFlag _ _ => false
  | _ => true

def Step.ctxFree (fixMode : Bool) (q : Act → Bool) (sp : Step) : Bool := sp.conds.all (Cond.ctxFree fixMode) && q sp.act

def Act.cardsFree (fixMode : Bool) (cards : List CardReq) : Act → Bool
  | .card _ i => cards[i]?.all (·.steps.all (Step.ctxFree fixMode Act.ctxFree))
  | _ => true

def Branch.ctxFree (fixMode : Bool) (T : Tables) (b : Branch) : Bool :=
  b.steps.all (Step.ctxFree fixMode fun a => a.ctxFree && a.cardsFree fixMode T.cards)

def St.withCtx (st : St) (c : Ctx) : St := { st with last := c.last, flags := c.flags }

/-- `a` neither reads nor writes the context: run (by `ex'`) on a state whose context has been replaced by `c`, it does
    what it does (by `ex`) on the state itself, context replaced afterwards.  `ex`, `ex'` are one interpreter in two modes. -/
def Commutes (c : Ctx) (ex ex' : St → Act → Except Err St) (a : Act) : Prop :=
  ∀ st, ex' (st.withCtx c) a = (ex st a).map (·.withCtx c)

theorem execBasic_withCtx (c : Ctx) {a : Act} (ha : a.ctxFree = true) : Commutes c execBasic execBasic a := by
  intro st
  -- `setLast`, `setFlag` are excluded by `ha`; every other act tests and updates only `s`, `np`, `nw`, `dot`, `stopped`,
  -- which `withCtx` leaves alone, so both sides take the same arm of the act's `if`/`match` and agree there by `rfl`
  cases a <;> cases ha <;> dsimp only [execBasic, St.withCtx] <;>
    repeat (first | rfl | (split <;> simp only [*, Except.map]))

-- `m` is the mode a handler was checked in, `m'` the mode it runs in: any, unless some step tests the mode (`hm`).
-- Every lemma below takes `hm`, then `af` if its statement mentions it, then `c`, as its first explicit arguments.
variable {fixMode : Bool} {m m' : Mode} (hm : fixMode = true → m' = m) (af : List String) (c : Ctx)
  {ex ex' : St → Act → Except Err St}
include hm

theorem Cond.eval_withCtx {k : Cond} (hk : k.ctxFree fixMode = true) (st : St) :
    Cond.eval af m' (st.withCtx c) k = Cond.eval af m st k := by
  cases k with
  | modeIn _ =>
    cases hm hk
    rfl
  | lastEq _ | lastNe _ | lastIn _ | lastNotIn _ | flagOn _ | flagOff _ => cases hk
  | _ => rfl

theorem stepWith_withCtx {sp : Step} (hc : sp.conds.all (Cond.ctxFree fixMode) = true) (hex : Commutes c ex ex' sp.act)
    (st : St) : stepWith ex' af m' (st.withCtx c) sp = (stepWith ex af m st sp).map (·.withCtx c) := by
  have hconds : sp.conds.all (Cond.eval af m' (st.withCtx c)) = sp.conds.all (Cond.eval af m st) := by
    rw [Bool.eq_iff_iff, List.all_eq_true, List.all_eq_true]
    exact forall₂_congr fun k hk => by rw [Cond.eval_withCtx hm af c (List.all_eq_true.mp hc k hk)]
  unfold stepWith
  rw [hconds, hex, show (st.withCtx c).stopped = st.stopped from rfl]
  cases st.stopped <;> cases sp.conds.all (Cond.eval af m st) <;> cases ex st sp.act <;> try rfl
  next e =>
    dsimp only [Except.map]
    cases sp.catches.contains e <;> rfl

theorem runWith_withCtx {q : Act → Bool} (hq : ∀ a, q a = true → Commutes c ex ex' a) :
    ∀ steps : List Step, steps.all (Step.ctxFree fixMode q) = true → ∀ st,
      runWith ex' af m' (st.withCtx c) steps = (runWith ex af m st steps).map (·.withCtx c)
  | [], _, _ => rfl
  | sp :: rest, h, st => by
    rw [List.all_cons, Step.ctxFree, Bool.and_eq_true, Bool.and_eq_true] at h
    obtain ⟨⟨hconds, hact⟩, hrest⟩ := h
    unfold runWith
    rw [stepWith_withCtx hm af c hconds (hq _ hact)]
    cases stepWith ex af m st sp with
    | ok st' => exact runWith_withCtx hq rest hrest st'
    | error e => rfl

theorem exec_withCtx (T : Tables) {a : Act} (ha : (a.ctxFree && a.cardsFree fixMode T.cards) = true) :
    Commutes c (exec T m) (exec T m') a := by
  obtain ⟨ha, hcard⟩ := Bool.and_eq_true _ _ ▸ ha
  intro st
  cases a with
  | card cls i =>
    simp only [exec]
    cases hcr : T.cards[i]? with
    | none => rfl
    | some cr =>
      rw [Act.cardsFree, hcr] at hcard
      -- the constructor starts from `st` with fresh counters and hands back the spline only
      have := runWith_withCtx hm T.assumedFalse c (fun _ => execBasic_withCtx c) cr.steps hcard
        { st with np := 0, nw := 0, caught := [], stopped := false }
      simp only [runBasic, St.withCtx] at this ⊢
      rw [this]
      generalize runWith execBasic _ m _ _ = r
      cases r <;> rfl
  | _ => exact execBasic_withCtx c ha st

theorem runBranch_ctxFree {T : Tables} {b : Branch} (hb : b.ctxFree fixMode T = true) (c₀ : Ctx) (f : Form) :
    runBranch T m' c b f = (runBranch T m c₀ b f).map fun _ => c := by
  have := runWith_withCtx hm T.assumedFalse c (fun _ => exec_withCtx hm c T) b.steps hb
    { s := f.spline, last := c₀.last, flags := c₀.flags, dot := T.dotNumeric }
  simp only [runBranch, runSteps, St.withCtx] at this ⊢
  rw [this]
  generalize runWith (exec T m) _ m _ _ = r
  cases r <;> rfl

theorem runBranch_ok_of_ctxFree {T : Tables} {b : Branch} (hb : b.ctxFree fixMode T = true) (c₀ : Ctx) (f : Form)
    (h : (runBranch T m c₀ b f).toBool = true) : runBranch T m' c b f = .ok c := by
  revert h
  rw [runBranch_ctxFree hm c hb c₀ f]
  cases runBranch T m c₀ b f with
  | error _ => exact nofun
  | ok _ => exact fun _ => rfl

end Shelx.C02
