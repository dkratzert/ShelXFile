/-
  C20 — the heap model of the caller's objects (`Heap`, ShelxModel/C20.lean): what one allocation and one in-place
  `rotmol` do to the rows that existed, and to the rows just made.
-/
import ShelxModel.C20
namespace Shelx.C20

variable {K : Type}

/-- every row the list `l` refers to exists in a heap with `next = n` (the rows in use are `0 … n − 1`) -/
def Below (l : List Nat) (n : Nat) : Prop := ∀ a ∈ l, a < n

theorem below_mono {l : List Nat} {n m : Nat} (h : Below l n) (hnm : n ≤ m) : Below l m :=
  fun a ha => Nat.lt_of_lt_of_le (h a ha) hnm

/-- `h'` is `h` with rows added: every row of `h` is there and holds the same numbers -/
def Ext (h h' : Heap K) : Prop := h.next ≤ h'.next ∧ ∀ a, a < h.next → h'.cell a = h.cell a

theorem ext_refl (h : Heap K) : Ext h h := ⟨Nat.le_refl _, fun _ _ => rfl⟩

theorem read_congr (h h' : Heap K) (l : List Nat) (hl : ∀ a ∈ l, h'.cell a = h.cell a) : h'.read l = h.read l :=
  List.map_congr_left hl

theorem write_next (h : Heap K) (a : Nat) (p : P3 K) : (h.write a p).next = h.next := rfl

theorem alloc_next (h : Heap K) (ps : List (P3 K)) : (h.alloc ps).1.next = h.next + ps.length := rfl
theorem alloc_addrs (h : Heap K) (ps : List (P3 K)) : (h.alloc ps).2 = List.range' h.next ps.length := rfl

theorem alloc_cell_lt (h : Heap K) (ps : List (P3 K)) (a : Nat) (ha : a < h.next) : (h.alloc ps).1.cell a = h.cell a :=
  if_neg (Nat.not_le_of_lt ha)

theorem alloc_cell_new (h : Heap K) (ps : List (P3 K)) (i : Nat) (hi : i < ps.length) :
    (h.alloc ps).1.cell (h.next + i) = ps[i] := by
  simp only [Heap.alloc]
  rw [if_pos (Nat.le_add_right ..)]
  simp [hi]

theorem alloc_read_new (h : Heap K) (ps : List (P3 K)) : (h.alloc ps).1.read (h.alloc ps).2 = ps := by
  apply List.ext_getElem
  · simp [Heap.read, Heap.alloc]
  · intro i h1 h2
    simp only [Heap.read, alloc_addrs, List.getElem_map, List.getElem_range', Nat.one_mul]
    exact alloc_cell_new h ps i h2

theorem mem_alloc (h : Heap K) (ps : List (P3 K)) (a : Nat) (ha : a ∈ (h.alloc ps).2) :
    h.next ≤ a ∧ a < (h.alloc ps).1.next :=
  List.mem_range'_1.mp ha

/-- what `fitFragmentH_eq` uses about the heap `h1` and the list `l1` that `h.alloc ps` returns, apart from `h1.next` -/
structure Allocated (h : Heap K) (ps : List (P3 K)) (h1 : Heap K) (l1 : List Nat) : Prop where
  /-- the rows of `l1` exist in `h1` … -/
  below : Below l1 h1.next
  /-- … and not in `h` -/
  fresh : ∀ a ∈ l1, h.next ≤ a
  nodup : l1.Nodup
  read : h1.read l1 = ps
  /-- a list of rows of `h` reads as before -/
  old : ∀ l, Below l h.next → h1.read l = h.read l

/-- what callers use of `h.alloc ps` without unfolding it: the pair it returns, `h1.next` (a conjunct of its own, so that
    `omega` finds it among the hypotheses) and `Allocated` -/
theorem alloc_spec (h : Heap K) (ps : List (P3 K)) :
    ∃ h1 l1, h.alloc ps = (h1, l1) ∧ h1.next = h.next + ps.length ∧ Allocated h ps h1 l1 :=
  ⟨_, _, rfl, rfl,
    { below := fun a ha => (mem_alloc h ps a ha).2
      fresh := fun a ha => (mem_alloc h ps a ha).1
      nodup := List.nodup_range' ..
      read := alloc_read_new h ps
      old := fun l hl => read_congr _ _ _ fun a ha => alloc_cell_lt h ps a (hl a ha) }⟩

theorem ext_alloc (h0 h : Heap K) (ps : List (P3 K)) (hx : Ext h0 h) : Ext h0 (h.alloc ps).1 :=
  ⟨Nat.le_trans hx.1 (Nat.le_add_right ..), fun a ha => by
    rw [alloc_cell_lt h ps a (Nat.lt_of_lt_of_le ha hx.1), hx.2 a ha]⟩

variable [Add K] [Mul K]

theorem rotmol_next (h : Heap K) (l : List Nat) (u : M3 K) : (h.rotmol l u).next = h.next := by
  unfold Heap.rotmol
  induction l generalizing h with
  | nil => rfl
  | cons a t ih => rw [List.foldl_cons, ih]; rfl

theorem rotmol_cell_notin (h : Heap K) (l : List Nat) (u : M3 K) (a : Nat) (ha : a ∉ l) :
    (h.rotmol l u).cell a = h.cell a := by
  unfold Heap.rotmol
  induction l generalizing h with
  | nil => rfl
  | cons x t ih =>
    rw [List.foldl_cons, ih _ fun hm => ha (List.mem_cons_of_mem _ hm)]
    exact if_neg fun (e : a = x) => ha (e ▸ List.mem_cons_self ..)

theorem rotmol_cell_in (h : Heap K) (l : List Nat) (u : M3 K) (hnd : l.Nodup) (a : Nat) (ha : a ∈ l) :
    (h.rotmol l u).cell a = rotPoint u (h.cell a) := by
  induction l generalizing h with
  | nil => cases ha
  | cons x t ih =>
    obtain ⟨hx, ht⟩ := List.nodup_cons.mp hnd
    show ((h.write x (rotPoint u (h.cell x))).rotmol t u).cell a = _
    rcases List.mem_cons.mp ha with rfl | hm
    · rw [rotmol_cell_notin _ t u a hx]
      exact if_pos rfl
    · rw [ih _ ht hm]
      exact congrArg _ (if_neg fun (e : a = x) => hx (e ▸ hm))

theorem rotmol_read (h : Heap K) (l : List Nat) (u : M3 K) (hnd : l.Nodup) :
    (h.rotmol l u).read l = rotmol (h.read l) u := by
  simp only [Heap.read, rotmol, List.map_map]
  exact List.map_congr_left fun a ha => rotmol_cell_in h l u hnd a ha

theorem read_rotmol_disjoint (h : Heap K) (l l' : List Nat) (u : M3 K) (hd : ∀ a ∈ l, a ∉ l') :
    (h.rotmol l' u).read l = h.read l :=
  read_congr _ _ _ fun a ha => rotmol_cell_notin h l' u a (hd a ha)

theorem ext_rotmol (h0 h : Heap K) (l : List Nat) (u : M3 K) (hl : ∀ a ∈ l, h0.next ≤ a) (hx : Ext h0 h) :
    Ext h0 (h.rotmol l u) :=
  ⟨by rw [rotmol_next]; exact hx.1, fun a ha => by
    rw [rotmol_cell_notin h l u a fun hm => Nat.not_le_of_lt ha (hl a hm), hx.2 a ha]⟩

end Shelx.C20
