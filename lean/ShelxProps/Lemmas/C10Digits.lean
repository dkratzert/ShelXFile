/-
  C10 — digit strings and the numbers they stand for (`spanDigits`, `natOfDigits`, `fracOfDigits` against `digitsVal`;
  `natDigits`, `fracDigits` as their inverses), and the facts about rational numbers that the models of `__eq__` and of
  `str(float)` need.
-/
import ShelxModel.C10
import Mathlib.Tactic.Ring
import Mathlib.Tactic.NormNum

namespace Shelx.C10

theorem digitVal_digitChar (d : Digit) : digitVal (digitChar d.val) = some d.val := by
  revert d; decide

/-- the values of the digits: the form in which `spanDigits`, `natDigits`, `fracDigits` return digits and `natOfDigits`,
    `fracOfDigits` read them -/
def vals (ds : List Digit) : List Nat := ds.map fun d => d.val

@[simp] theorem vals_nil : vals [] = [] := rfl

@[simp] theorem vals_cons (d : Digit) (ds : List Digit) : vals (d :: ds) = d.val :: vals ds := rfl

@[simp] theorem vals_append (p q : List Digit) : vals (p ++ q) = vals p ++ vals q := List.map_append

theorem vals_eq_nil {ds : List Digit} : vals ds = [] ↔ ds = [] := by simp [vals]

theorem digitChar_vals (ds : List Digit) : (vals ds).map digitChar = digitsChars ds := by
  simp [vals, digitsChars]

theorem spanDigits_digits (ds : List Digit) (r : List Char) (hr : ∀ ch ∈ r.head?, digitVal ch = none) :
    spanDigits (digitsChars ds ++ r) = (vals ds, r) := by
  induction ds with
  | nil =>
    cases r with
    | nil => rfl
    | cons ch t => simp [digitsChars, spanDigits, hr ch rfl]
  | cons d ds ih => simp_all [digitsChars, spanDigits, digitVal_digitChar]

theorem natOfDigits_vals (ds : List Digit) : natOfDigits (vals ds) = digitsVal ds := by
  simp [natOfDigits, digitsVal, vals, List.foldl_map]

theorem foldl_digits_acc (ds : List Digit) (acc : Nat) :
    ds.foldl (fun a d => 10 * a + d.val) acc = acc * 10 ^ ds.length + digitsVal ds := by
  induction ds generalizing acc with
  | nil => simp [digitsVal]
  | cons d ds ih =>
    simp only [List.foldl_cons, List.length_cons, digitsVal]
    rw [ih (10 * acc + d.val), ih (10 * 0 + d.val)]
    ring

theorem digitsVal_append (p q : List Digit) : digitsVal (p ++ q) = digitsVal p * 10 ^ q.length + digitsVal q := by
  simp only [digitsVal, List.foldl_append]
  exact foldl_digits_acc q _

theorem digitsVal_cons (d : Digit) (ds : List Digit) : digitsVal (d :: ds) = d.val * 10 ^ ds.length + digitsVal ds := by
  simpa [digitsVal] using digitsVal_append [d] ds

theorem fracOfDigits_vals (fp : List Digit) : fracOfDigits (vals fp) * 10 ^ fp.length = digitsVal fp := by
  induction fp with
  | nil => simp [fracOfDigits, digitsVal]
  | cons d ds ih =>
    rw [digitsVal_cons, Nat.cast_add, Nat.cast_mul, Nat.cast_pow, ← ih]
    simp only [vals_cons, fracOfDigits, List.length_cons, Nat.cast_ofNat]
    ring

theorem value_dec (ip fp : List Digit) :
    (Numeral.dec ip fp).value = (digitsVal ip : Rat) + fracOfDigits (vals fp) := by
  rw [Numeral.value, digitsVal_append, Nat.cast_add, Nat.cast_mul, Nat.cast_pow, Nat.cast_ofNat, ← fracOfDigits_vals fp, ← add_mul,
    mul_div_cancel_right₀ _ (pow_ne_zero _ (by norm_num))]

theorem natDigits_spec (n : Nat) : ∃ ds : List Digit, ds ≠ [] ∧ natDigits n = vals ds ∧ digitsVal ds = n := by
  induction n using Nat.strongRecOn with
  | _ n ih =>
    rw [natDigits]
    by_cases h : n < 10
    · exact ⟨[⟨n, h⟩], by simp, by simp [h], by simp [digitsVal]⟩
    · obtain ⟨ds, hne, hd, hv⟩ := ih (n / 10) (by omega)
      refine ⟨ds ++ [⟨n % 10, by omega⟩], by simp, by simp [h, hd], ?_⟩
      rw [digitsVal_append, hv]
      simp [digitsVal]
      omega

theorem ite_neg_eq_abs (x : Rat) : (if x < 0 then -x else x) = |x| := by
  split_ifs with h
  exacts [(abs_of_neg h).symm, (abs_of_nonneg (not_lt.1 h)).symm]

theorem int_eq_zero {j : Int} (h1 : -1 < (j : Rat)) (h2 : (j : Rat) < 1) : j = 0 := by
  rw [← Int.cast_one, ← Int.cast_neg, Int.cast_lt] at h1
  rw [← Int.cast_one, Int.cast_lt] at h2
  omega

/-- Without its integer part (`a.floor.toNat`, as `fmtDec` and `fracDigits` take it) `a` lies in [0,1) and is still a
    multiple of `10⁻ᵏ`. -/
theorem fracPart_spec {a : Rat} (h0 : 0 ≤ a) {k : Nat} (hg : ∃ m : Int, a * 10 ^ k = m) :
    0 ≤ a - a.floor.toNat ∧ a - a.floor.toNat < 1 ∧ ∃ m : Int, (a - a.floor.toNat) * 10 ^ k = m := by
  have hcast : ((a.floor.toNat : Nat) : Rat) = a.floor := by
    have : ((a.floor.toNat : Nat) : Int) = a.floor := Int.toNat_of_nonneg (Rat.le_floor_iff.2 (by simpa using h0))
    exact_mod_cast this
  have h1 := Rat.floor_le a
  have h2 := Rat.lt_floor_add_one a
  push_cast at h2
  obtain ⟨m, hm⟩ := hg
  rw [hcast]
  exact ⟨sub_nonneg.2 h1, sub_lt_iff_lt_add'.2 h2, m - a.floor * 10 ^ k, by push_cast; rw [← hm]; ring⟩

theorem fracDigits_spec (fuel : Nat) : ∀ (k : Nat) (r : Rat), k ≤ fuel → 0 ≤ r → r < 1 → (∃ m : Int, r * 10 ^ k = m) →
    ∃ ds : List Digit, fracDigits fuel r = vals ds ∧ fracOfDigits (vals ds) = r := by
  have hzero : ∀ r : Rat, 0 ≤ r → r < 1 → (∃ m : Int, r * 10 ^ 0 = m) → r = 0 := by
    rintro r h0 h1 ⟨m, hm⟩
    rw [pow_zero, mul_one] at hm
    rw [hm] at h0 h1
    rw [hm, int_eq_zero (neg_one_lt_zero.trans_le h0) h1, Int.cast_zero]
  induction fuel with
  | zero =>
    intro k r hk h0 h1 hm
    obtain rfl : k = 0 := by omega
    exact ⟨[], rfl, (hzero r h0 h1 hm).symm⟩
  | succ fuel ih =>
    intro k r hk h0 h1 hm
    by_cases hr : r = 0
    · exact ⟨[], by simp [fracDigits, hr], by simp [fracOfDigits, hr]⟩
    · obtain ⟨k, rfl⟩ : ∃ k', k = k' + 1 := by
        cases k with
        | zero => exact absurd (hzero r h0 h1 hm) hr
        | succ k => exact ⟨k, rfl⟩
      obtain ⟨m, hm⟩ := hm
      obtain ⟨hr0, hr1, hg⟩ := fracPart_spec (a := r * 10) (k := k) (mul_nonneg h0 (by norm_num)) ⟨m, by rw [← hm]; ring⟩
      obtain ⟨ds, hds, hval⟩ := ih k _ (by omega) hr0 hr1 hg
      have hd : (r * 10).floor.toNat < 10 := by
        have : (((r * 10).floor.toNat : Nat) : Rat) < (10 : Nat) :=
          (sub_nonneg.1 hr0).trans_lt (mul_lt_of_lt_one_left (by norm_num) h1)
        exact Nat.cast_lt.1 this
      refine ⟨⟨_, hd⟩ :: ds, by simp [fracDigits, hr, hds], ?_⟩
      simp only [vals_cons, fracOfDigits] at hval ⊢
      rw [hval]
      ring

end Shelx.C10
