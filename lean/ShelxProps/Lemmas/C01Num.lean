/-
  C01, numerals: `roundHalfEven` picks the nearer neighbouring integer; the digits of a number read back as the number
  (`scan_fixDigits`: a digit reader run over the `k` digits of `m` turns `a` into `10 ^ k * a + m % 10 ^ k`; `parseUns`
  and `parseFrac` are such readers, `natDigits n` is `fixDigits (k + 1) n`); what `fmtNat`, `fmtInt` and `fmtFixed`
  write denotes, for `parseDec`, the number they were given (`fmtFixed`: its rounding).
-/
import ShelxModel.C01
import Mathlib.Tactic.Linarith

namespace Shelx.C01

theorem roundHalfEven_cases (y : Rat) :
    (roundHalfEven y = y.floor ∧ y - y.floor ≤ 1 / 2) ∨
      (roundHalfEven y = y.floor + 1 ∧ 1 / 2 ≤ y - y.floor) := by
  rw [roundHalfEven]
  split_ifs with h1 h2
  · exact .inl ⟨rfl, h1.le⟩
  · exact .inr ⟨rfl, h2.le⟩
  · exact .inl ⟨rfl, not_lt.mp h2⟩
  · exact .inr ⟨rfl, not_lt.mp h1⟩

theorem roundHalfEven_close (y : Rat) : |((roundHalfEven y : Int) : Rat) - y| ≤ 1 / 2 := by
  rcases roundHalfEven_cases y with ⟨e, h⟩ | ⟨e, h⟩ <;> rw [e]
  · rw [abs_sub_comm, abs_of_nonneg (sub_nonneg.mpr (Rat.floor_le y))]; exact h
  · rw [abs_of_pos (sub_pos.mpr (Rat.lt_floor_add_one y)), Int.cast_add, Int.cast_one]; linarith

theorem roundHalfEven_nonneg (y : Rat) (h : 0 ≤ y) : 0 ≤ roundHalfEven y := by
  have : 0 ≤ y.floor := Rat.le_floor_iff.mpr (by exact_mod_cast h)
  rcases roundHalfEven_cases y with ⟨e, -⟩ | ⟨e, -⟩ <;> omega

theorem roundHalfEven_nonpos (y : Rat) (h : y < 0) : roundHalfEven y ≤ 0 := by
  have : y.floor < 0 := Rat.floor_lt_iff.mpr (by exact_mod_cast h)
  rcases roundHalfEven_cases y with ⟨e, -⟩ | ⟨e, -⟩ <;> omega

theorem roundHalfEven_int (k : Int) : roundHalfEven (k : Rat) = k := by
  simp [roundHalfEven, Rat.floor_intCast]

theorem digitChar_ok (d : Nat) (h : d < 10) : isDigit (digitChar d) = true ∧ digitVal (digitChar d) = d := by
  have key : ∀ d : Fin 10, isDigit (digitChar d.val) = true ∧ digitVal (digitChar d.val) = d.val := by decide
  exact key ⟨d, h⟩

theorem fixDigits_lt (k m : Nat) : ∀ d ∈ fixDigits k m, d < 10 := by
  induction k generalizing m with
  | zero => intro d hd; cases hd
  | succ k ih =>
    intro d hd
    rcases List.mem_append.mp hd with hd | hd
    · exact ih _ d hd
    · rw [List.mem_singleton.mp hd]; exact Nat.mod_lt _ (by decide)

theorem fixDigits_length (k m : Nat) : (fixDigits k m).length = k := by
  induction k generalizing m with
  | zero => rfl
  | succ k ih => simp [fixDigits, ih]

theorem fixDigits_isDigit (k m : Nat) : ∀ c ∈ (fixDigits k m).map digitChar, isDigit c = true := by
  intro c hc
  obtain ⟨d, hd, rfl⟩ := List.mem_map.mp hc
  exact (digitChar_ok d (fixDigits_lt k m d hd)).1

/-- positional notation read back, for any reader that takes a digit `c` into `a ↦ 10 * a + digitVal c` and counts it
    (`parseFrac`; `parseUns` without the count). No bound on `m`: `fixDigits k m` are the digits of `m % 10 ^ k`. -/
theorem scan_fixDigits {β} (f : List Char → Nat → Nat → β)
    (hf : ∀ c cs a j, isDigit c = true → f (c :: cs) a j = f cs (10 * a + digitVal c) (j + 1))
    (k m : Nat) (rest : List Char) (a j : Nat) :
    f ((fixDigits k m).map digitChar ++ rest) a j = f rest (10 ^ k * a + m % 10 ^ k) (j + k) := by
  induction k generalizing m rest with
  | zero => rw [Nat.pow_zero, Nat.mod_one, Nat.one_mul]; rfl
  | succ k ih =>
    obtain ⟨h1, h2⟩ := digitChar_ok (m % 10) (Nat.mod_lt _ (by decide))
    rw [fixDigits, List.map_append, List.append_assoc, ih, List.map_singleton, List.singleton_append, hf _ _ _ _ h1, h2]
    -- `Nat.mod_mul`: m % (10 * 10 ^ k) = m % 10 + 10 * (m / 10 % 10 ^ k)
    rw [Nat.pow_succ', Nat.mod_mul, Nat.mul_assoc, Nat.mul_add, Nat.add_assoc, Nat.add_comm (m % 10)]
    rfl

theorem parseUns_fixDigits (k m : Nat) (rest : List Char) (a : Nat) :
    parseUns ((fixDigits k m).map digitChar ++ rest) a = parseUns rest (10 ^ k * a + m % 10 ^ k) :=
  scan_fixDigits (fun cs a _ => parseUns cs a) (fun c cs a _ h => by rw [parseUns, if_pos h]) k m rest a 0

theorem parseFrac_fixDigits (k m a j : Nat) :
    parseFrac ((fixDigits k m).map digitChar) a j = some (10 ^ k * a + m % 10 ^ k, j + k) := by
  have := scan_fixDigits parseFrac (fun c cs a j h => by rw [parseFrac, if_pos h]) k m [] a j
  rwa [List.append_nil] at this

/-- what is needed of `natDigits` comes from this and the lemmas on `fixDigits` -/
theorem natDigits_eq_fixDigits (n : Nat) : ∃ k, n < 10 ^ (k + 1) ∧ natDigits n = fixDigits (k + 1) n := by
  induction n using Nat.strong_induction_on with
  | _ n ih =>
    rw [natDigits]
    split
    next h => exact ⟨0, h, by simp [fixDigits, Nat.mod_eq_of_lt h]⟩
    next h =>
      obtain ⟨k, hk, e⟩ := ih (n / 10) (by omega)
      exact ⟨k + 1, by rw [Nat.pow_succ]; omega, by rw [e]; rfl⟩

theorem fmtNat_isDigit (n : Nat) : ∀ c ∈ fmtNat n, isDigit c = true := by
  obtain ⟨k, -, e⟩ := natDigits_eq_fixDigits n
  rw [fmtNat, e]; exact fixDigits_isDigit _ _

theorem fmtNat_ne_nil (n : Nat) : fmtNat n ≠ [] := by
  obtain ⟨k, -, e⟩ := natDigits_eq_fixDigits n
  rw [fmtNat, e, fixDigits, List.map_append]
  exact List.append_ne_nil_of_right_ne_nil _ (List.cons_ne_nil _ _)

theorem fmtNat_blankfree (n : Nat) : ' ' ∉ fmtNat n :=
  fun h => absurd (fmtNat_isDigit n _ h) (by decide)

theorem parseUns_fmtNat (n : Nat) (rest : List Char) : parseUns (fmtNat n ++ rest) 0 = parseUns rest n := by
  obtain ⟨k, hk, e⟩ := natDigits_eq_fixDigits n
  rw [fmtNat, e, parseUns_fixDigits, Nat.mul_zero, Nat.zero_add, Nat.mod_eq_of_lt hk]

/-- the accumulator `a / 10 ^ nd` (in `Nat`) is the integer part, already read -/
theorem parseUns_fixed (nd a : Nat) :
    parseUns ('.' :: (fixDigits nd (a % 10 ^ nd)).map digitChar) (a / 10 ^ nd) =
      some ((a : Rat) / (10 : Rat) ^ nd) := by
  have hP : (10 : Rat) ^ nd ≠ 0 := by positivity
  rw [parseUns, if_neg (by decide), if_pos rfl, parseFrac_fixDigits, Nat.mul_zero, Nat.zero_add, Nat.mod_mod,
    Nat.zero_add, Option.map_some, Option.some_inj, eq_div_iff hP, add_mul, div_mul_cancel₀ _ hP]
  exact_mod_cast Nat.div_add_mod' a (10 ^ nd)

/-- sign, integer part, rest: every numeral the printers write starts like this -/
theorem parseDec_signed (p : Prop) [Decidable p] (n : Nat) (rest : List Char) :
    parseDec ((if p then ['-'] else []) ++ (fmtNat n ++ rest)) =
      (parseUns rest n).map fun v => if p then -v else v := by
  split_ifs with hp
  · rw [List.singleton_append, parseDec, if_pos rfl, parseUns_fmtNat]
  · -- the first character is a digit, not a sign
    rw [List.nil_append, ← parseUns_fmtNat n rest, Option.map_id']
    cases e : fmtNat n with
    | nil => exact absurd e (fmtNat_ne_nil n)
    | cons c s =>
      have : c ≠ '-' := fun hc => absurd (fmtNat_isDigit n '-' (by rw [e, hc]; exact List.mem_cons_self)) (by decide)
      rw [List.cons_append, parseDec, if_neg this]

/-- what `'{:.ndf}'.format(x)` writes denotes `x` rounded half-even to `nd` places, exactly -/
theorem fmtFixed_parse (nd : Nat) (x : Rat) :
    parseDec (fmtFixed nd x) = some (((roundHalfEven (x * (10 : Rat) ^ nd) : Int) : Rat) / (10 : Rat) ^ nd) := by
  have hP : (0 : Rat) < (10 : Rat) ^ nd := by positivity
  have hneg := fun hx : x < 0 => roundHalfEven_nonpos _ (mul_neg_of_neg_of_pos hx hP)
  have hpos := fun hx : ¬x < 0 => roundHalfEven_nonneg _ (mul_nonneg (not_lt.mp hx) hP.le)
  rw [fmtFixed]
  generalize roundHalfEven (x * (10 : Rat) ^ nd) = r at hneg hpos ⊢
  rw [parseDec_signed, parseUns_fixed, Option.map_some, Nat.cast_natAbs]
  split_ifs with hx
  · rw [abs_of_nonpos (hneg hx), Int.cast_neg, neg_div, neg_neg]
  · rw [abs_of_nonneg (hpos hx)]

theorem parseDec_fmtNat (n : Nat) : parseDec (fmtNat n) = some (n : Rat) := by
  have := parseDec_signed False n []
  rwa [List.append_nil, if_neg not_false, List.nil_append] at this

theorem parseDec_fmtInt (n : Int) : parseDec (fmtInt n) = some (n : Rat) := by
  have := parseDec_signed (n < 0) n.natAbs []
  rw [List.append_nil] at this
  rw [fmtInt, this, parseUns, Option.map_some, Nat.cast_natAbs]
  split_ifs with h
  · rw [abs_of_neg h, Int.cast_neg, neg_neg]
  · rw [abs_of_nonneg (not_lt.mp h)]

theorem fmtFixed_blankfree (nd : Nat) (x : Rat) : ' ' ∉ fmtFixed nd x := by
  intro h
  simp only [fmtFixed, List.mem_append, List.mem_cons] at h
  rcases h with h | h | h | h
  · split_ifs at h <;> simp at h
  · exact fmtNat_blankfree _ h
  · exact absurd h (by decide)
  · exact absurd (fixDigits_isDigit _ _ _ h) (by decide)

theorem fmtFixed_ne_nil (nd : Nat) (x : Rat) : fmtFixed nd x ≠ [] := by
  rw [fmtFixed]
  split_ifs <;> simp [fmtNat_ne_nil]

end Shelx.C01
