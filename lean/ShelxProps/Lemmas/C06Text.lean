/-
  C06 — facts about the specification side alone: splitting at a character, tokens, non-blank characters, the
  continuation mark and the continuation-joining lexer. Nothing here knows of the wrapper.
-/
import ShelxModel.C06

namespace Shelx.C06

theorem splitOnC_ne_nil (s : Char) (l : List Char) : splitOnC s l ≠ [] := by
  cases l with
  | nil => simp [splitOnC]
  | cons c cs =>
    unfold splitOnC
    split
    · simp
    · split <;> simp

/-- the two equations of `splitOnC`, without the case that cannot occur -/
theorem splitOnC_cons (s c : Char) (cs : List Char) :
    ∃ h t, splitOnC s cs = h :: t ∧ splitOnC s (c :: cs) = if c = s then [] :: h :: t else (c :: h) :: t := by
  obtain ⟨h, t, e⟩ := List.exists_cons_of_ne_nil (splitOnC_ne_nil s cs)
  exact ⟨h, t, e, by simp only [splitOnC, e]⟩

theorem splitOnC_append_sep (s : Char) (a b : List Char) :
    splitOnC s (a ++ s :: b) = splitOnC s a ++ splitOnC s b := by
  induction a with
  | nil => simp [splitOnC]
  | cons c a ih =>
    obtain ⟨h, t, e1, e2⟩ := splitOnC_cons s c a
    obtain ⟨h', t', e1', e2'⟩ := splitOnC_cons s c (a ++ s :: b)
    rw [List.cons_append, e2', e2]
    rw [ih, e1, List.cons_append, List.cons.injEq] at e1'
    rw [← e1'.1, ← e1'.2]
    split <;> rfl

theorem splitOnC_not_mem (s : Char) (a : List Char) (h : s ∉ a) : splitOnC s a = [a] := by
  induction a with
  | nil => rfl
  | cons c a ih =>
    rw [List.mem_cons, not_or] at h
    simp [splitOnC, ih h.2, Ne.symm h.1]

theorem splitOnC_parts (s : Char) (l : List Char) : ∀ p ∈ splitOnC s l, s ∉ p := by
  induction l with
  | nil => simp [splitOnC]
  | cons c cs ih =>
    obtain ⟨h, t, e1, e2⟩ := splitOnC_cons s c cs
    rw [e1, List.forall_mem_cons] at ih
    rw [e2]
    split
    · exact List.forall_mem_cons.mpr ⟨List.not_mem_nil, List.forall_mem_cons.mpr ih⟩
    · rename_i hc
      exact List.forall_mem_cons.mpr ⟨fun hm => (List.mem_cons.mp hm).elim (hc ∘ Eq.symm) ih.1, ih.2⟩

theorem splitOnC_head_nil (s : Char) (x h : List Char) (t : List (List Char)) (e : splitOnC s x = h :: t) :
    h = [] ↔ ∀ c ∈ x.head?, c = s := by
  cases x with
  | nil => simp_all [splitOnC]
  | cons c r =>
    obtain ⟨h', t', _, e'⟩ := splitOnC_cons s c r
    rw [e'] at e
    split at e <;> obtain ⟨rfl, -⟩ := List.cons.inj e <;> simp [*]

theorem joinWith_cons_cons (sep : List Char) (c : Char) (h : List Char) (t : List (List Char)) :
    joinWith sep ((c :: h) :: t) = c :: joinWith sep (h :: t) := by
  cases t <;> simp [joinWith]

theorem joinWith_splitOnC (s : Char) (l : List Char) : joinWith [s] (splitOnC s l) = l := by
  induction l with
  | nil => rfl
  | cons c cs ih =>
    obtain ⟨h, t, e1, e2⟩ := splitOnC_cons s c cs
    rw [e1] at ih
    rw [e2]
    split
    · rename_i hc
      rw [joinWith, ih, hc]
      rfl
    · rw [joinWith_cons_cons, ih]

theorem physLines_joinWith_nl (parts : List (List Char)) (h : parts ≠ []) :
    physLines (joinWith ['\n'] parts) = parts.flatMap physLines := by
  induction parts with
  | nil => exact absurd rfl h
  | cons p tl ih =>
    cases tl with
    | nil => simp [joinWith]
    | cons q r =>
      rw [physLines, joinWith, List.append_assoc, List.singleton_append, splitOnC_append_sep, List.flatMap_cons,
        ← ih (by simp)]
      rfl

/-- a run of blanks / of non-blanks. (The model's Boolean `allBlank` belongs to the comment-aware lexer, which no proof
    here reads.) -/
def AllBlank (l : List Char) : Prop := ∀ x ∈ l, x = ' '
def NoBlank (l : List Char) : Prop := ∀ x ∈ l, x ≠ ' '

theorem allBlank_cons {x : Char} {l : List Char} : AllBlank (x :: l) ↔ x = ' ' ∧ AllBlank l := List.forall_mem_cons

theorem noBlank_cons {x : Char} {l : List Char} : NoBlank (x :: l) ↔ x ≠ ' ' ∧ NoBlank l := List.forall_mem_cons

/-- a reading of a line that does not see blanks and can be taken on the two sides of a blank separately: `tokens`,
    `nonblank` -/
structure BlankHom {β : Type} (f : List Char → List β) : Prop where
  nil : f [] = []
  append_blank : ∀ a b, f (a ++ ' ' :: b) = f a ++ f b

theorem tokens_hom : BlankHom tokens :=
  ⟨by simp [tokens, splitOnC], fun a b => by simp [tokens, splitOnC_append_sep]⟩

theorem nonblank_hom : BlankHom nonblank := ⟨rfl, fun a b => by simp [nonblank]⟩

namespace BlankHom

theorem blank_cons {β : Type} {f : List Char → List β} (hf : BlankHom f) (b : List Char) : f (' ' :: b) = f b := by
  simpa [hf.nil] using hf.append_blank [] b

theorem blanks_append {β : Type} {f : List Char → List β} (hf : BlankHom f) {bl : List Char} (h : AllBlank bl)
    (c : List Char) : f (bl ++ c) = f c := by
  induction bl with
  | nil => rfl
  | cons x bl ih =>
    rw [allBlank_cons] at h
    rw [h.1, List.cons_append, hf.blank_cons, ih h.2]

end BlankHom

theorem mem_nonblank {c : Char} (hc : c ≠ ' ') (l : List Char) : c ∈ nonblank l ↔ c ∈ l := by
  simp [nonblank, hc]

theorem nonblank_flatten (ps : List (List Char)) : nonblank ps.flatten = ps.flatMap nonblank := by
  rw [List.flatMap_def]
  exact List.filter_flatten

theorem tokens_of_tok (t : List Char) (h1 : t ≠ []) (h2 : NoBlank t) : tokens t = [t] := by
  have : ' ' ∉ t := fun hm => h2 ' ' hm rfl
  simp [tokens, splitOnC_not_mem _ _ this, h1]

theorem tokens_cons (z : Char) (hz : z ≠ ' ') (x : List Char) :
    tokens (z :: x) = if ∀ c ∈ x.head?, c = ' ' then [z] :: tokens x
      else (z :: (tokens x).headD []) :: (tokens x).tail := by
  obtain ⟨h, t, e1, e2⟩ := splitOnC_cons ' ' z x
  have hh := splitOnC_head_nil ' ' x h t e1
  by_cases h0 : h = []
  · rw [if_pos (hh.mp h0)]
    simp [tokens, e2, hz, e1, h0]
  · rw [if_neg (mt hh.mpr h0)]
    simp [tokens, e2, hz, e1, h0]

/-- a cut at which a line can be lexed in two halves: not between two non-blank characters -/
def CutAtBlank (a b : List Char) : Prop := ∀ x ∈ a.getLast?, ∀ y ∈ b.head?, x = ' ' ∨ y = ' '

theorem tokens_append_of_cutAtBlank (a b : List Char) (h : CutAtBlank a b) :
    tokens (a ++ b) = tokens a ++ tokens b := by
  rcases List.eq_nil_or_concat a with rfl | ⟨a', x, rfl⟩
  · simp [tokens_hom.nil]
  · cases b with
    | nil => simp [tokens_hom.nil]
    | cons y b =>
      rw [List.concat_eq_append] at h ⊢
      rcases h x (by simp) y rfl with rfl | rfl
      · rw [List.append_assoc, List.singleton_append, tokens_hom.append_blank, tokens_hom.append_blank a' [],
          tokens_hom.nil, List.append_nil]
      · rw [tokens_hom.append_blank, tokens_hom.blank_cons]

namespace CutAtBlank

theorem blank_left (d : List Char) {c : List Char} (h : AllBlank c) (hne : c ≠ []) (b : List Char) :
    CutAtBlank (d ++ c) b := by
  intro x hx _ _
  rw [List.getLast?_append, List.getLast?_eq_some_getLast hne, Option.some_or, Option.mem_some_iff] at hx
  exact Or.inl (h x (hx ▸ List.getLast_mem hne))

theorem blank_right (a : List Char) {c : List Char} (h : AllBlank c) (hne : c ≠ []) (d : List Char) :
    CutAtBlank a (c ++ d) := by
  intro _ _ y hy
  rw [List.head?_append, List.head?_eq_some_head hne, Option.some_or, Option.mem_some_iff] at hy
  exact Or.inr (h y (hy ▸ List.head_mem hne))

end CutAtBlank

theorem lastNB_nonblank (l : List Char) : lastNB l = (nonblank l).getLast? := by
  rw [lastNB, nonblank, List.getLast?_filter]

theorem lastNB_append (a b : List Char) : lastNB (a ++ b) = (lastNB b).or (lastNB a) := by
  simp [lastNB, List.find?_append]

theorem flagged_congr {a b : List Char} (h : nonblank a = nonblank b) : flagged a = flagged b := by
  rw [flagged, flagged, lastNB_nonblank, lastNB_nonblank, h]

theorem flagged_suffix (a : List Char) {b : List Char} (h : flagged (a ++ b) = false) : flagged b = false := by
  rw [flagged, lastNB_append] at h
  rw [flagged]
  cases hb : lastNB b with
  | none => rfl
  | some c => rwa [hb, Option.some_or] at h

theorem flagged_mark (y : List Char) : flagged (y ++ [' ', '=']) = true := by
  simp [flagged, lastNB]

theorem body_mark (y : List Char) : body (y ++ [' ', '=']) = y ++ [' '] := by
  simp [body]

/-- what the lexer does with a flagged line once the lines behind it are read: its body goes in front of their first
    logical line; if there is none, the continuation runs into nothing -/
def glue (b : List Char) : Option (List (List Char)) → Option (List (List Char))
  | some (h :: t) => some ((b ++ h) :: t)
  | _ => none

theorem unwrapLines_unflagged (pl : List Char) (rest : List (List Char)) (hf : flagged pl = false) :
    unwrapLines (pl :: rest) = (unwrapLines rest).map (pl :: ·) := by
  simp [unwrapLines, hf]

theorem unwrapLines_flagged (pl : List Char) (rest : List (List Char)) (hf : flagged pl = true) :
    unwrapLines (pl :: rest) = glue (body pl) (unwrapLines rest) := by
  cases rest with
  | nil => simp [unwrapLines, hf, glue]
  | cons q rest =>
    conv => lhs; unfold unwrapLines
    simp only [hf, if_true]
    rcases unwrapLines (q :: rest) with _ | ⟨_ | ⟨h, t⟩⟩ <;> rfl

end Shelx.C06
