/-
  C20 — what the in-place index loops of `quatfit.jacobi` compute (model `jacobiRot`; `foldl_colPair` also
  serves the column swap of `sortEig`, `swapCols_orth` in `C20.lean`).

  Every such loop recomputes, pass by pass, two cells of a nested list from their own old values, and no two passes
  name the same cell (`pairStep`, `foldl_pairStep_mem`). Hence the loop over `eigenvect` turns the columns `i`, `j` of
  every row (`jacobiRot_v`), and the three loops over `matrix` together with the assignments to `eigenval` turn rows
  and columns `i`, `j` of the symmetric matrix they stand for (`jacobiRot_sym`). `rotC`, `rotR` turn columns, rows:
  `X ↦ X·G`, `X ↦ Gᵀ·X` for the Givens matrix `G`, and commute with the 4×4 product as these do (`mul4_rotC`,
  `tr4_rotC_mul4`).
-/
import ShelxModel.C20
import Mathlib.Data.List.Basic
import Mathlib.Tactic.Ring
import Mathlib.Tactic.LinearCombination
import Mathlib.Data.Real.Basic
namespace Shelx.C20

section cells
variable {K : Type}

theorem upd_apply (m : Mat K) (i j : Nat) (x : K) (r q : Nat) :
    upd m i j x r q = if r = i ∧ q = j then x else m r q := rfl

/-- the cell of `m` at the index pair `x`: passes name their cells as pairs, so distinct cells are `≠` in `Nat × Nat` -/
def cellAt (m : Mat K) (x : Nat × Nat) : K := m x.1 x.2

/-- pass `k` of such a loop: the cells `P k`, `Q k` become `f`, `g` of the values both held before the pass -/
def pairStep (P Q : Nat → Nat × Nat) (f g : K → K → K) (m : Mat K) (k : Nat) : Mat K :=
  upd (upd m (Q k).1 (Q k).2 (g (cellAt m (P k)) (cellAt m (Q k)))) (P k).1 (P k).2 (f (cellAt m (P k)) (cellAt m (Q k)))

variable (P Q : Nat → Nat × Nat) (f g : K → K → K)

theorem pairStep_apply (m : Mat K) (k : Nat) (x : Nat × Nat) :
    cellAt (pairStep P Q f g m k) x = if x = P k then f (cellAt m (P k)) (cellAt m (Q k))
      else if x = Q k then g (cellAt m (P k)) (cellAt m (Q k)) else cellAt m x := by
  simp only [cellAt, pairStep, upd_apply, Prod.ext_iff]

theorem foldl_pairStep_other (l : List Nat) (m : Mat K) (x : Nat × Nat) (hx : ∀ k ∈ l, x ≠ P k ∧ x ≠ Q k) :
    cellAt (l.foldl (pairStep P Q f g) m) x = cellAt m x := by
  induction l generalizing m with
  | nil => rfl
  | cons a t ih =>
    rw [List.foldl_cons, ih _ fun k hk => hx k (List.mem_cons_of_mem _ hk), pairStep_apply,
      if_neg (hx a List.mem_cons_self).1, if_neg (hx a List.mem_cons_self).2]

theorem foldl_pairStep_mem (l : List Nat) (hl : l.Nodup) (m : Mat K) (k : Nat) (hk : k ∈ l) (hPQ : P k ≠ Q k)
    (hd : ∀ k' ∈ l, k' ≠ k → (P k ≠ P k' ∧ P k ≠ Q k') ∧ (Q k ≠ P k' ∧ Q k ≠ Q k')) :
    cellAt (l.foldl (pairStep P Q f g) m) (P k) = f (cellAt m (P k)) (cellAt m (Q k)) ∧
    cellAt (l.foldl (pairStep P Q f g) m) (Q k) = g (cellAt m (P k)) (cellAt m (Q k)) := by
  induction l generalizing m with
  | nil => cases hk
  | cons a t ih =>
    obtain ⟨hat, ht⟩ := List.nodup_cons.mp hl
    have hdt := fun k' hk' => hd k' (List.mem_cons_of_mem _ hk')
    rw [List.foldl_cons]
    rcases eq_or_ne a k with rfl | hak
    · have hta : ∀ k' ∈ t, k' ≠ a := fun k' hk' e => hat (e ▸ hk')
      rw [foldl_pairStep_other P Q f g t _ _ fun k' hk' => (hdt k' hk' (hta k' hk')).1,
        foldl_pairStep_other P Q f g t _ _ fun k' hk' => (hdt k' hk' (hta k' hk')).2,
        pairStep_apply, pairStep_apply, if_pos rfl, if_neg hPQ.symm, if_pos rfl]
      exact ⟨rfl, rfl⟩
    · have hka := hd a List.mem_cons_self hak
      obtain ⟨e1, e2⟩ := ih ht (pairStep P Q f g m a) ((List.mem_cons.mp hk).resolve_left hak.symm) hdt
      rw [e1, e2, pairStep_apply, pairStep_apply, if_neg hka.1.1, if_neg hka.1.2, if_neg hka.2.1, if_neg hka.2.2]
      exact ⟨rfl, rfl⟩

theorem foldl_colPair (n i j : Nat) (hij : i ≠ j) (m : Mat K) (r q : Nat) (hr : r < n) :
    (List.range n).foldl (pairStep (·, i) (·, j) f g) m r q
      = if q = i then f (m r i) (m r j) else if q = j then g (m r i) (m r j) else m r q := by
  have h := foldl_pairStep_mem (·, i) (·, j) f g (List.range n) List.nodup_range m r (List.mem_range.mpr hr)
    (by simp [hij]) (by simp +contextual [hij, hij.symm, eq_comm])
  split
  · subst q; exact h.1
  · split
    · subst q; exact h.2
    · exact foldl_pairStep_other _ _ f g _ m (r, q) (by simp [*])

end cells

def mul4 (A B : Nat → Nat → ℝ) : Nat → Nat → ℝ :=
  fun r c => A r 0 * B 0 c + A r 1 * B 1 c + A r 2 * B 2 c + A r 3 * B 3 c

def tr4 (A : Nat → Nat → ℝ) : Nat → Nat → ℝ := fun r c => A c r
def delta4 : Nat → Nat → ℝ := fun r c => if r = c then 1 else 0

theorem mul4_congr {A A' B B' : Nat → Nat → ℝ} {r k : Nat} (hA : ∀ p, p < 4 → A r p = A' r p)
    (hB : ∀ p, p < 4 → B p k = B' p k) : mul4 A B r k = mul4 A' B' r k := by
  simp only [mul4, hA 0 (by omega), hA 1 (by omega), hA 2 (by omega), hA 3 (by omega),
    hB 0 (by omega), hB 1 (by omega), hB 2 (by omega), hB 3 (by omega)]

theorem tr4_mul4 (A B : Nat → Nat → ℝ) : tr4 (mul4 A B) = mul4 (tr4 B) (tr4 A) := by
  funext r q
  simp only [mul4, tr4]
  ring

theorem mul4_delta4 (A : Nat → Nat → ℝ) (r k : Nat) (hk : k < 4) : mul4 A delta4 r k = A r k := by
  have : k = 0 ∨ k = 1 ∨ k = 2 ∨ k = 3 := by omega
  rcases this with rfl | rfl | rfl | rfl <;> simp [mul4, delta4]

theorem tr4_delta4_mul4 (A : Nat → Nat → ℝ) (r k : Nat) (hr : r < 4) : mul4 (tr4 delta4) A r k = A r k :=
  (congrFun (congrFun (tr4_mul4 (tr4 A) delta4) r) k).symm.trans (mul4_delta4 (tr4 A) k r hr)

section rot
variable (i j : Nat) (c s : ℝ)

def rotC (X : Nat → Nat → ℝ) : Nat → Nat → ℝ :=
  fun r q => if q = i then c * X r i - s * X r j else if q = j then s * X r i + c * X r j else X r q

def rotR (X : Nat → Nat → ℝ) : Nat → Nat → ℝ := tr4 (rotC i j c s (tr4 X))

theorem mul4_rotC (A B : Nat → Nat → ℝ) : mul4 A (rotC i j c s B) = rotC i j c s (mul4 A B) := by
  funext r q
  simp only [mul4, rotC]
  split_ifs <;> ring

theorem tr4_rotC_mul4 (V W : Nat → Nat → ℝ) : mul4 (tr4 (rotC i j c s V)) W = rotR i j c s (mul4 (tr4 V) W) := by
  rw [rotR, tr4_mul4 (tr4 V), ← mul4_rotC, tr4_mul4]
  rfl

variable {i j c s}

/-- How an invariant `VᵀW = X` moves under one rotation: if `V'`, `W'` are `V`, `W` with the columns `i`, `j` turned (known
    row by row, for the rows `< 4`), then `V'ᵀW' = Gᵀ·X·G`. With `W = N₀V` and with `W = V` these are the two conjuncts
    of `JInv` (ShelxProps/C20.lean). -/
theorem mul4_tr4_rotC {V V' W W' X : Nat → Nat → ℝ} (hi : i < 4) (hj : j < 4)
    (hV : ∀ p, p < 4 → ∀ q, V' p q = rotC i j c s V p q) (hW : ∀ p, p < 4 → ∀ q, W' p q = rotC i j c s W p q)
    (hX : ∀ r k, r < 4 → k < 4 → mul4 (tr4 V) W r k = X r k) (r k : Nat) (hr : r < 4) (hk : k < 4) :
    mul4 (tr4 V') W' r k = rotC i j c s (rotR i j c s X) r k := by
  rw [mul4_congr (A' := tr4 (rotC i j c s V)) (B' := rotC i j c s W) (fun p hp => hV p hp r) fun p hp => hW p hp k,
    mul4_rotC, tr4_rotC_mul4]
  simp only [rotC, rotR, tr4, hX i i hi hi, hX i j hi hj, hX j i hj hi, hX j j hj hj, hX r i hr hi, hX r j hr hj,
    hX i k hi hk, hX j k hj hk, hX r k hr hk]

variable (c s)

/-- entry by entry, the way the code assigns them: a symmetric `S'` is `S` with rows and columns `i`, `j` turned, for
    a rotation that annihilates the element `(i, j)` -/
theorem rotC_rotR_sym (S S' : Nat → Nat → ℝ) (hij : i ≠ j) (hS : ∀ r q, S r q = S q r) (hS' : ∀ r q, S' r q = S' q r)
    (hzero : (c * c - s * s) * S i j - c * s * (S j j - S i i) = 0)
    (hii : S' i i = c * c * S i i + s * s * S j j - 2 * c * s * S i j)
    (hjj : S' j j = s * s * S i i + c * c * S j j + 2 * c * s * S i j)
    (hij0 : S' i j = 0)
    (hk : ∀ k, k < 4 → k ≠ i → k ≠ j → S' k i = c * S k i - s * S k j ∧ S' k j = s * S k i + c * S k j)
    (ho : ∀ r q, r < 4 → q < 4 → r ≠ i → r ≠ j → q ≠ i → q ≠ j → S' r q = S r q)
    (r q : Nat) (hr : r < 4) (hq : q < 4) : S' r q = rotC i j c s (rotR i j c s S) r q := by
  simp only [rotC, rotR, tr4]
  rcases eq_or_ne r i with rfl | hri
  · rcases eq_or_ne q r with rfl | hqi
    · simp only [if_true, hii, hS j q]; ring
    · rcases eq_or_ne q j with rfl | hqj
      · simp only [if_true, hij.symm, hij, if_false, hij0, hS q r]; linear_combination -hzero
      · simp only [if_true, hqi, hqj, if_false, hS' r q, (hk q hq hqi hqj).1, hS r q, hS j q]
  · rcases eq_or_ne r j with rfl | hrj
    · rcases eq_or_ne q i with rfl | hqi
      · simp only [if_true, hij.symm, hij, if_false, hS' r q, hij0, hS r q]; linear_combination -hzero
      · rcases eq_or_ne q r with rfl | hqj
        · simp only [if_true, hij.symm, if_false, hjj, hS q i]; ring
        · simp only [if_true, hij.symm, hqi, hqj, if_false, hS' r q, (hk q hq hqi hqj).2, hS i q, hS r q]
    · rcases eq_or_ne q i with rfl | hqi
      · simp only [if_true, hri, hrj, if_false, (hk r hr hri hrj).1]
      · rcases eq_or_ne q j with rfl | hqj
        · simp only [if_true, hri, hrj, hqi, if_false, (hk r hr hri hrj).2]
        · simp only [hri, hrj, hqi, hqj, if_false, ho r q hr hq hri hrj hqi hqj]

theorem rotC_rotR_delta4 (hij : i ≠ j) (h : c * c + s * s = 1) (r q : Nat) (hr : r < 4) (hq : q < 4) :
    rotC i j c s (rotR i j c s delta4) r q = delta4 r q := by
  have hd : ∀ r q, delta4 r q = delta4 q r := fun r q => by simp only [delta4, eq_comm]
  refine (rotC_rotR_sym c s delta4 delta4 hij hd hd ?_ ?_ ?_ (if_neg hij) ?_ (fun _ _ _ _ _ _ _ _ => rfl) r q hr hq).symm
  · simp only [delta4, if_neg hij, if_true]; ring
  · simp only [delta4, if_neg hij, if_true]; linear_combination -h
  · simp only [delta4, if_neg hij, if_true]; linear_combination -h
  · intro k _ hki hkj
    simp only [delta4, if_neg hki, if_neg hkj, mul_zero, sub_zero, add_zero, and_self]

end rot

theorem jacobiRot_v (i j : Nat) (hij : i ≠ j) (c s b : ℝ) (st : JState ℝ) (r q : Nat) (hr : r < 4) :
    (jacobiRot i j c s b st).v r q = rotC i j c s (fun p q => st.v p q) r q := by
  unfold jacobiRot
  -- the loop body is a `pairStep` by `rfl`; `exact foldl_colPair …` against the model's fold as it stands makes the
  -- unifier evaluate both folds
  rw [List.foldl_ext _ (pairStep (·, i) (·, j) (fun x y => c * x - s * y) (fun x y => s * x + c * y)) st.v]
  · exact foldl_colPair _ _ 4 i j hij st.v r q hr
  · exact fun _ _ _ => rfl

/-- the symmetric matrix that `matrix` (strict upper triangle) and `eigenval` (diagonal) stand for -/
def symOf (a : Mat ℝ) (d : Vec ℝ) : Nat → Nat → ℝ :=
  fun r c => if r = c then d r else if r < c then a r c else a c r

/-- the cell of `matrix` that holds the element `(r, q)`, `r ≠ q` -/
def ut (r q : Nat) : Nat × Nat := if r < q then (r, q) else (q, r)

theorem ut_eq_ut (a b a' b' : Nat) : ut a b = ut a' b' ↔ a = a' ∧ b = b' ∨ a = b' ∧ b = a' := by
  unfold ut
  split <;> split <;> simp only [Prod.mk.injEq] <;> omega

theorem symOf_self (a : Mat ℝ) (d : Vec ℝ) (r : Nat) : symOf a d r r = d r := if_pos rfl

theorem ut_ne {a b a' b' : Nat} (h : ¬(a = a' ∧ b = b' ∨ a = b' ∧ b = a')) : ut a b ≠ ut a' b' :=
  mt (ut_eq_ut a b a' b').mp h

theorem symOf_of_ne (a : Mat ℝ) (d : Vec ℝ) (r q : Nat) (h : r ≠ q) : symOf a d r q = cellAt a (ut r q) := by
  unfold symOf ut
  rw [if_neg h]
  split <;> rfl

theorem symOf_comm (a : Mat ℝ) (d : Vec ℝ) (r q : Nat) : symOf a d r q = symOf a d q r := by
  rcases eq_or_ne r q with rfl | h
  · rfl
  · rw [symOf_of_ne a d r q h, symOf_of_ne a d q r h.symm, (ut_eq_ut r q q r).mpr (Or.inr ⟨rfl, rfl⟩)]

def others (i j : Nat) : List Nat :=
  List.range i ++ (List.range' (i + 1) (j - (i + 1)) ++ List.range' (j + 1) (4 - (j + 1)))

theorem mem_others (i j k : Nat) (hij : i < j) (hj : j < 4) : k ∈ others i j ↔ k < 4 ∧ k ≠ i ∧ k ≠ j := by
  simp only [others, List.mem_append, List.mem_range, List.mem_range'_1]
  omega

theorem nodup_others (i j : Nat) (hij : i < j) : (others i j).Nodup := by
  refine List.nodup_append.mpr ⟨List.nodup_range,
      List.nodup_append.mpr ⟨List.nodup_range' .., List.nodup_range' .., ?_⟩, ?_⟩ <;>
    simp only [List.mem_append, List.mem_range, List.mem_range'_1] <;> omega

/-- The three loops over `matrix` are one loop over the indices `k` other than `i`, `j`: it turns the pair of elements
    `(k, i)`, `(k, j)` of the symmetric matrix, each taken from the cell where the upper triangle keeps it (which
    cell that is, is what distinguishes `k < i`, `i < k < j` and `j < k`). -/
theorem jacobiRot_a (i j : Nat) (hij : i < j) (c s b : ℝ) (st : JState ℝ) :
    (jacobiRot i j c s b st).a = (others i j).foldl
      (pairStep (ut · i) (ut · j) (fun x y => c * x - s * y) (fun x y => s * x + c * y)) (upd st.a i j 0) := by
  rw [others, List.foldl_append, List.foldl_append]
  unfold jacobiRot
  simp only
  rw [List.foldl_ext _ (pairStep (ut · i) (ut · j) _ _) _ (l := List.range i),
    List.foldl_ext _ (pairStep (ut · i) (ut · j) _ _) _ (l := List.range' (i + 1) _),
    List.foldl_ext _ (pairStep (ut · i) (ut · j) _ _) _ (l := List.range' (j + 1) _)]
  · intro a k hk
    have := List.mem_range'_1.mp hk
    simp only [pairStep, cellAt, ut, if_neg (show ¬ k < i by omega), if_neg (show ¬ k < j by omega)]
  · intro a k hk
    have := List.mem_range'_1.mp hk
    simp only [pairStep, cellAt, ut, if_neg (show ¬ k < i by omega), if_pos (show k < j by omega)]
  · intro a k hk
    have := List.mem_range.mp hk
    simp only [pairStep, cellAt, ut, if_pos this, if_pos (this.trans hij)]

/-- `hzero`: `c`, `s` annihilate the element `(i, j)`, which the code sets to 0 without computing it -/
theorem jacobiRot_sym (i j : Nat) (hij : i < j) (hj : j < 4) (c s : ℝ) (st : JState ℝ)
    (hzero : (c * c - s * s) * st.a i j - c * s * (st.d j - st.d i) = 0) (r q : Nat) (hr : r < 4) (hq : q < 4) :
    symOf (jacobiRot i j c s (st.a i j) st).a (jacobiRot i j c s (st.a i j) st).d r q
      = rotC i j c s (rotR i j c s (symOf st.a st.d)) r q := by
  have hSij : symOf st.a st.d i j = st.a i j := by simp only [symOf, if_neg hij.ne, if_pos hij]
  have hd : ∀ k, (jacobiRot i j c s (st.a i j) st).d k
      = if k = i then c * c * st.d i + s * s * st.d j - 2 * c * s * st.a i j
        else if k = j then s * s * st.d i + c * c * st.d j + 2 * c * s * st.a i j else st.d k := fun k => rfl
  have hut : (i, j) = ut i j := (if_pos hij).symm
  have h0 : ∀ r q, ut r q ≠ ut i j → cellAt (upd st.a i j 0) (ut r q) = cellAt st.a (ut r q) :=
    fun r q h => if_neg fun e => h ((Prod.ext e.1 e.2 : ut r q = (i, j)).trans hut)
  have hm := fun k => mem_others i j k hij hj
  refine rotC_rotR_sym c s _ _ hij.ne (symOf_comm _ _) (symOf_comm _ _) ?_ ?_ ?_ ?_ ?_ ?_ r q hr hq
  · rw [hSij, symOf_self, symOf_self]; exact hzero
  · rw [symOf_self, symOf_self, symOf_self, hSij, hd, if_pos rfl]
  · rw [symOf_self, symOf_self, symOf_self, hSij, hd, if_neg hij.ne', if_pos rfl]
  · rw [symOf_of_ne _ _ i j hij.ne, jacobiRot_a i j hij, foldl_pairStep_other, ← hut]
    · exact if_pos ⟨rfl, rfl⟩
    · exact fun k hk => ⟨ut_ne (by have := (hm k).mp hk; omega), ut_ne (by have := (hm k).mp hk; omega)⟩
  · intro k hk hki hkj
    simp only [symOf_of_ne _ _ k i hki, symOf_of_ne _ _ k j hkj, jacobiRot_a i j hij]
    rw [← h0 k i (ut_ne (by omega)), ← h0 k j (ut_ne (by omega))]
    exact foldl_pairStep_mem _ _ _ _ _ (nodup_others i j hij) _ k ((hm k).mpr ⟨hk, hki, hkj⟩) (ut_ne (by omega))
      fun k' hk' hne => by
        have := (hm k').mp hk'
        exact ⟨⟨ut_ne (by omega), ut_ne (by omega)⟩, ut_ne (by omega), ut_ne (by omega)⟩
  · intro r q hr hq hri hrj hqi hqj
    rcases eq_or_ne r q with rfl | hrq
    · rw [symOf_self, symOf_self, hd, if_neg hri, if_neg hrj]
    · simp only [symOf_of_ne _ _ r q hrq, jacobiRot_a i j hij]
      rw [foldl_pairStep_other, h0 r q (ut_ne (by omega))]
      exact fun k hk => ⟨ut_ne (by have := (hm k).mp hk; omega), ut_ne (by have := (hm k).mp hk; omega)⟩

end Shelx.C20
