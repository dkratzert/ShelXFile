/-
  C11 — arithmetic modulo ℤ³, the operators as a monoid, and the structure of the spec list
  `fullGroup N S = K · (id :: S)` (K: centring translations × inversion). Two criteria that need the SYMM operators
  only, not the whole list: `nodup_fullGroupWith` (no class twice) and `closed_fullGroup` (closed under composition).
  Last, closure carried along a permutation of the classes (`closed_of_perm`) and the length formula `fullGroup_length`.
-/
import ShelxModel.C11Core
import Mathlib.Tactic.Ring
import Mathlib.Tactic.Linarith
import Mathlib.Tactic.Push
import Mathlib.Data.List.Perm.Basic
import Mathlib.Data.List.Nodup

namespace Shelx.C11
open List

theorem fract_eq_iff {x y : Rat} : fract x = fract y ↔ ∃ k : Int, x = y + k := by
  constructor
  · intro h
    exact ⟨x.floor - y.floor, by unfold fract at h; push_cast; linarith⟩
  · rintro ⟨k, rfl⟩
    unfold fract; rw [Rat.floor_add_intCast]; push_cast; ring

theorem fractV_eq_iff {u v : Vec} :
    fractV u = fractV v ↔ ∃ kx ky kz : Int, u.x = v.x + kx ∧ u.y = v.y + ky ∧ u.z = v.z + kz := by
  simp only [fractV, Vec.mk.injEq, fract_eq_iff]
  constructor
  · rintro ⟨⟨kx, hx⟩, ⟨ky, hy⟩, ⟨kz, hz⟩⟩; exact ⟨kx, ky, kz, hx, hy, hz⟩
  · rintro ⟨kx, ky, kz, hx, hy, hz⟩; exact ⟨⟨kx, hx⟩, ⟨ky, hy⟩, ⟨kz, hz⟩⟩

theorem cls_eq_iff {a b : Op} : cls a = cls b ↔ a.m = b.m ∧ fractV a.t = fractV b.t := by
  simp [cls]

theorem fractV_add_left {t u v : Vec} : fractV (t.add u) = fractV (t.add v) ↔ fractV u = fractV v := by
  simp only [fractV_eq_iff, Vec.add, add_assoc, add_right_inj]

/-- holds because the matrices are integral -/
theorem cls_comp_congr {a a' b b' : Op} (ha : cls a = cls a') (hb : cls b = cls b') :
    cls (comp a b) = cls (comp a' b') := by
  rw [cls_eq_iff, fractV_eq_iff] at ha hb ⊢
  obtain ⟨hma, ax, ay, az, hax, hay, haz⟩ := ha
  obtain ⟨hmb, bx, b_y, bz, hbx, hby, hbz⟩ := hb
  refine ⟨by simp only [comp, hma, hmb], a'.m.a11 * bx + a'.m.a12 * b_y + a'.m.a13 * bz + ax,
    a'.m.a21 * bx + a'.m.a22 * b_y + a'.m.a23 * bz + ay, a'.m.a31 * bx + a'.m.a32 * b_y + a'.m.a33 * bz + az, ?_, ?_, ?_⟩ <;>
  · simp only [comp, Mat.mulVec, Vec.add, hma, hax, hay, haz, hbx, hby, hbz]
    push_cast
    ring

theorem comp_assoc (a b c : Op) : comp (comp a b) c = comp a (comp b c) := by
  obtain ⟨⟨a11, a12, a13, a21, a22, a23, a31, a32, a33⟩, ⟨ax, ay, az⟩⟩ := a
  obtain ⟨⟨b11, b12, b13, b21, b22, b23, b31, b32, b33⟩, ⟨bx, b_y, bz⟩⟩ := b
  obtain ⟨⟨c11, c12, c13, c21, c22, c23, c31, c32, c33⟩, ⟨cx, cy, cz⟩⟩ := c
  simp only [comp, Mat.mul, Mat.mulVec, Vec.add, Op.mk.injEq, Mat.mk.injEq, Vec.mk.injEq, Int.cast_add, Int.cast_mul]
  refine ⟨⟨?_, ?_, ?_, ?_, ?_, ?_, ?_, ?_, ?_⟩, ?_, ?_, ?_⟩ <;> ring

/-- left multiplication by a translation, by the inversion: what `apply_latt_symm`, `centric=True` do in the code -/
theorem comp_transl (c : Vec) (o : Op) : comp (transl c) o = ⟨o.m, o.t.add c⟩ := by
  obtain ⟨⟨m11, m12, m13, m21, m22, m23, m31, m32, m33⟩, ⟨x, y, z⟩⟩ := o
  simp [comp, transl, Mat.mul, Mat.mulVec, Mat.one, Vec.add]

theorem comp_inversion (o : Op) : comp inversion o = ⟨o.m.neg, o.t.neg⟩ := by
  obtain ⟨⟨m11, m12, m13, m21, m22, m23, m31, m32, m33⟩, ⟨x, y, z⟩⟩ := o
  simp [comp, inversion, Mat.mul, Mat.mulVec, Mat.one, Mat.neg, Vec.add, Vec.neg, Vec.zero]

theorem comp_ident (o : Op) : comp ident o = o := by
  obtain ⟨m, ⟨x, y, z⟩⟩ := o
  simp [show ident = transl Vec.zero from rfl, comp_transl, Vec.add, Vec.zero]

theorem comp_ident_right (o : Op) : comp o ident = o := by
  obtain ⟨⟨m11, m12, m13, m21, m22, m23, m31, m32, m33⟩, ⟨x, y, z⟩⟩ := o
  simp [comp, ident, Mat.mul, Mat.mulVec, Mat.one, Vec.add, Vec.zero]

/-- `0 :: C` is a group modulo ℤ³ and lists each of its classes once -/
def CentringGroup (C : List Vec) : Prop :=
  ((Vec.zero :: C).map fractV).Nodup ∧
  (∀ c ∈ Vec.zero :: C, ∀ c' ∈ Vec.zero :: C, fractV (c.add c') ∈ (Vec.zero :: C).map fractV) ∧
  ∀ c ∈ Vec.zero :: C, fractV c.neg ∈ (Vec.zero :: C).map fractV

instance (C : List Vec) : Decidable (CentringGroup C) := by unfold CentringGroup; infer_instance

theorem specCentring_group (N : Int) : CentringGroup (specCentring N) := by
  unfold specCentring
  generalize N.natAbs = n
  unfold specCentringNat
  split <;> decide +kernel

theorem mem_fullGroupWith {C : List Vec} {centric : Bool} {S : List Op} {x : Op} :
    x ∈ fullGroupWith C centric S ↔
      ∃ s ∈ ident :: S, ∃ c ∈ Vec.zero :: C, ∃ i ∈ signs centric, comp (transl c) (comp i s) = x := by
  simp only [fullGroupWith, List.mem_map, List.mem_flatMap]

theorem mem_fullGroupWith_cls {C : List Vec} {centric : Bool} {S : List Op} {x : Op} :
    cls x ∈ (fullGroupWith C centric S).map cls ↔
      ∃ s ∈ ident :: S, ∃ c ∈ Vec.zero :: C, ∃ i ∈ signs centric, cls x = cls (comp (transl c) (comp i s)) := by
  simp only [List.mem_map, mem_fullGroupWith]
  constructor
  · rintro ⟨_, ⟨s, hs, c, hc, i, hi, rfl⟩, e⟩; exact ⟨s, hs, c, hc, i, hi, e.symm⟩
  · rintro ⟨s, hs, c, hc, i, hi, e⟩; exact ⟨_, ⟨s, hs, c, hc, i, hi, rfl⟩, e.symm⟩

theorem transl_mem_fullGroupWith {C : List Vec} (hC : CentringGroup C) {centric : Bool} {S : List Op} {c : Vec}
    (hc : c ∈ Vec.zero :: C) {y : Op} (hy : cls y ∈ (fullGroupWith C centric S).map cls) :
    cls (comp (transl c) y) ∈ (fullGroupWith C centric S).map cls := by
  rw [mem_fullGroupWith_cls] at hy ⊢
  obtain ⟨s, hs, c', hc', i, hi, e⟩ := hy
  obtain ⟨c'', hc'', e''⟩ := List.mem_map.mp (hC.2.1 c' hc' c hc)
  refine ⟨s, hs, c'', hc'', i, hi, ?_⟩
  rw [cls_comp_congr rfl e, ← comp_assoc]
  refine cls_comp_congr ?_ rfl
  rw [comp_transl]
  simp only [cls, transl, e'']

theorem sign_mem_fullGroupWith {C : List Vec} (hC : CentringGroup C) {centric : Bool} {S : List Op} {i₀ : Op}
    (hi₀ : i₀ ∈ signs centric) {y : Op} (hy : cls y ∈ (fullGroupWith C centric S).map cls) :
    cls (comp i₀ y) ∈ (fullGroupWith C centric S).map cls := by
  obtain rfl | ⟨rfl, rfl⟩ : i₀ = ident ∨ centric = true ∧ i₀ = inversion := by
    cases centric <;> simpa [signs] using hi₀
  · rwa [comp_ident]
  rw [mem_fullGroupWith_cls] at hy ⊢
  obtain ⟨s, hs, c', hc', i, hi, e⟩ := hy
  obtain ⟨c'', hc'', e''⟩ := List.mem_map.mp (hC.2.2 c' hc')
  have hi' := (by decide +kernel : ∀ i ∈ signs true, comp inversion i ∈ signs true) i hi
  have hsw : cls (comp inversion (transl c')) = cls (comp (transl c'') inversion) := by
    rw [comp_inversion, comp_transl]
    simpa [cls, transl, inversion, Vec.add, Vec.zero] using e''.symm
  refine ⟨s, hs, c'', hc'', _, hi', ?_⟩
  calc cls (comp inversion y) = cls (comp (comp inversion (transl c')) (comp i s)) := by
        rw [comp_assoc]; exact cls_comp_congr rfl e
    _ = cls (comp (comp (transl c'') inversion) (comp i s)) := cls_comp_congr hsw rfl
    _ = cls (comp (transl c'') (comp (comp inversion i) s)) := by rw [comp_assoc, comp_assoc]

/-- the rotation parts of all `i ∘ s` (`s ∈ id :: S`, `i` a sign); `nodup_fullGroupWith` asks that no two coincide -/
def rotations (centric : Bool) (S : List Op) : List Mat :=
  (ident :: S).flatMap fun s => (signs centric).map fun i => (comp i s).m

/-- `c ∘ i ∘ s` determines `s` and `i` by its rotation part, and `c` modulo ℤ³ by its translation -/
theorem nodup_fullGroupWith {C : List Vec} (hC : CentringGroup C) {centric : Bool} {S : List Op}
    (hR : (rotations centric S).Nodup) : ((fullGroupWith C centric S).map cls).Nodup := by
  have key : ∀ {c c' : Vec} {p p' : Op}, cls (comp (transl c) p) = cls (comp (transl c') p') →
      p.m = p'.m ∧ fractV (p.t.add c) = fractV (p'.t.add c') := by
    intro c c' p p' h
    simpa only [comp_transl, cls_eq_iff] using h
  rw [rotations, List.nodup_flatMap] at hR
  unfold fullGroupWith
  rw [List.map_flatMap, List.nodup_flatMap]
  refine ⟨fun s hs => ?_, hR.2.imp fun {a b} hab => ?_⟩
  · rw [List.map_flatMap, List.nodup_flatMap]
    refine ⟨fun c _ => ?_, (List.pairwise_map.mp hC.1).imp fun {c c'} hcc' => ?_⟩
    · rw [List.map_map]
      exact (List.Nodup.of_map _ (hR.1 s hs)).map_on fun i hi j hj e =>
        List.inj_on_of_nodup_map (hR.1 s hs) hi hj (key e).1
    · intro x hx hy
      simp only [List.mem_map] at hx hy
      obtain ⟨_, ⟨i, hi, rfl⟩, rfl⟩ := hx
      obtain ⟨_, ⟨j, hj, rfl⟩, e⟩ := hy
      obtain ⟨hm, ht⟩ := key e
      obtain rfl := List.inj_on_of_nodup_map (hR.1 s hs) hj hi hm
      exact hcc' (fractV_add_left.mp ht).symm
  · intro x hx hy
    simp only [List.mem_map, List.mem_flatMap] at hx hy
    obtain ⟨_, ⟨c, _, i, hi, rfl⟩, rfl⟩ := hx
    obtain ⟨_, ⟨c', _, j, hj, rfl⟩, e⟩ := hy
    exact hab (List.mem_map_of_mem hi) ((key e).1 ▸ List.mem_map_of_mem hj)

theorem factor_mem_gens {N : Int} {S : List Op} {o : Op}
    (h : o ∈ ident :: S ∨ o ∈ (Vec.zero :: specCentring N).map transl ∨ o ∈ signs (centricOf N)) :
    o ∈ ident :: gensOf N S := by
  simp only [gensOf, List.mem_cons, List.mem_append]
  rcases h with h | h | h
  · exact (List.mem_cons.mp h).imp_right fun h => .inl (.inl h)
  · obtain ⟨c, hc, rfl⟩ := List.mem_map.mp h
    exact (List.mem_cons.mp hc).imp (fun (e : c = Vec.zero) => e ▸ rfl) fun hc => .inl (.inr (List.mem_map_of_mem hc))
  · unfold signs at h
    split at h
    · exact (List.mem_cons.mp h).imp_right fun h => .inr (by simp_all)
    · exact .inl (by simpa using h)

/-- `G ∘ g ⊆ G` modulo ℤ³; products of such `g` inherit it (`rightOK_comp`), so `Closed` needs it of generators only -/
def RightOK (G : List Op) (g : Op) : Prop := ∀ b ∈ G, cls (comp b g) ∈ G.map cls

theorem rightOK_comp {G : List Op} {g h : Op} (hg : RightOK G g) (hh : RightOK G h) : RightOK G (comp g h) := by
  intro b hb
  obtain ⟨b1, hb1, e1⟩ := List.mem_map.mp (hg b hb)
  rw [← comp_assoc, cls_comp_congr e1.symm rfl]
  exact hh b1 hb1

/-- the setting describes a group -/
def ClosedSetting (N : Int) (S : List Op) : Prop := Closed (fullGroup N S)

instance (N : Int) (S : List Op) : Decidable (ClosedSetting N S) := by unfold ClosedSetting; infer_instance

/-- a member is `k ∘ s` with `k` in the centring × inversion part, `(k ∘ s) ∘ g = k ∘ (s ∘ g)`, the list is stable
    under `k`, and every member is a product of generators -/
theorem closed_fullGroup (N : Int) (S : List Op)
    (h : ∀ s ∈ ident :: S, ∀ g ∈ gensOf N S, cls (comp s g) ∈ (fullGroup N S).map cls) : ClosedSetting N S := by
  have hC := specCentring_group N
  have hgen : ∀ g ∈ ident :: gensOf N S, RightOK (fullGroup N S) g := by
    intro g hg b hb
    rcases List.mem_cons.mp hg with rfl | hg
    · rw [comp_ident_right]; exact List.mem_map_of_mem hb
    obtain ⟨s, hs, c, hc, i, hi, rfl⟩ := mem_fullGroupWith.mp hb
    rw [comp_assoc, comp_assoc]
    exact transl_mem_fullGroupWith hC hc (sign_mem_fullGroupWith hC hi (h s hs g hg))
  intro a ha b hb
  obtain ⟨s, hs, c, hc, i, hi, rfl⟩ := mem_fullGroupWith.mp hb
  exact rightOK_comp (hgen _ (factor_mem_gens (.inr (.inl (List.mem_map_of_mem hc)))))
    (rightOK_comp (hgen _ (factor_mem_gens (.inr (.inr hi)))) (hgen _ (factor_mem_gens (.inl hs)))) a ha

theorem closed_of_perm {L G : List Op} (hp : L.map cls ~ G.map cls) (hG : Closed G) : Closed L := by
  intro a ha b hb
  obtain ⟨a', ha', ea⟩ := List.mem_map.mp (hp.subset (List.mem_map_of_mem ha))
  obtain ⟨b', hb', eb⟩ := List.mem_map.mp (hp.subset (List.mem_map_of_mem hb))
  exact hp.symm.subset (cls_comp_congr ea eb ▸ hG a' ha' b' hb')

theorem perm_flatMap_pair {α β : Type} (f g : α → β) (l : List α) :
    l.flatMap (fun c => [f c, g c]) ~ l.map f ++ l.map g := by
  simpa only [← List.map_eq_flatMap] using (List.map_append_flatMap_perm l f fun c => [g c]).symm

theorem length_flatMap_const {α β : Type} (f : α → List β) (k : Nat) (l : List α) (h : ∀ a, (f a).length = k) :
    (l.flatMap f).length = l.length * k := by
  induction l with
  | nil => simp
  | cons a l ih => simp [List.flatMap_cons, ih, h, Nat.succ_mul, Nat.add_comm]

theorem fullGroup_length (N : Int) (S : List Op) :
    (fullGroup N S).length = (1 + S.length) * mult N * (if N > 0 then 2 else 1) := by
  unfold fullGroup fullGroupWith
  rw [length_flatMap_const _ (mult N * (if N > 0 then 2 else 1))]
  · simp [Nat.add_comm, Nat.mul_assoc]
  · intro s
    rw [length_flatMap_const _ (if N > 0 then 2 else 1)]
    · simp [mult, Nat.add_comm]
    · intro c
      by_cases hN : N > 0 <;> simp [signs, centricOf, hN]

end Shelx.C11
