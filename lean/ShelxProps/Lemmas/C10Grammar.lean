/-
  C10 — what the parser does on the printed form of a component of the grammar: `_partition` is followed on the item
  list (invariant `Left`), `_float` on a signed numeral; `normalise_relayout` removes blanks and case.
-/
import ShelxProps.Lemmas.C10Digits

namespace Shelx.C10

-- lists of characters, not `"…".toList`: the kernel is slow on `String.toList` of a literal
def numAlphabet : List Char := ['0', '1', '2', '3', '4', '5', '6', '7', '8', '9', '.', '/']

/-- Every character of a printed component is one of these (`print_sub`); what the parser has to know of a character
    is then one evaluation over the list. -/
def alphabet : List Char := ['+', '-', 'X', 'Y', 'Z'] ++ numAlphabet

theorem digitsChars_sub (ds : List Digit) : ∀ ch ∈ digitsChars ds, ch ∈ numAlphabet := by
  simp only [digitsChars, List.forall_mem_map]
  exact fun d _ => (by decide +kernel : ∀ d : Digit, digitChar d.val ∈ numAlphabet) d

theorem numeral_chars_sub (v : Numeral) : ∀ ch ∈ v.chars, ch ∈ numAlphabet := by
  have hd := digitsChars_sub
  cases v <;> simp only [Numeral.chars, List.forall_mem_append, List.forall_mem_singleton]
  exacts [⟨⟨hd _, by decide⟩, hd _⟩, hd _, ⟨⟨hd _, by decide⟩, hd _⟩]

theorem item_chars_sub (i : Item) : ∀ ch ∈ i.chars, ch ∈ alphabet := by
  have hs : ∀ s : Sign, ∀ ch ∈ s.chars, ch ∈ alphabet := by intro s; cases s <;> decide
  cases i with
  | term s a =>
    simp only [Item.chars, List.forall_mem_append, List.forall_mem_singleton]
    exact ⟨hs s, by cases a <;> decide⟩
  | num s v =>
    simp only [Item.chars, List.forall_mem_append]
    exact ⟨hs s, fun ch h => List.mem_append_right _ (numeral_chars_sub v ch h)⟩

theorem print_sub (c : Component) : ∀ ch ∈ print c, ch ∈ alphabet := by
  induction c with
  | nil => simp [print]
  | cons i r ih =>
    simp only [print, List.forall_mem_append]
    exact ⟨item_chars_sub i, ih⟩

theorem numeral_chars_ne (v : Numeral) :
    ∀ ch ∈ v.chars, ch ≠ '+' ∧ ch ≠ '-' ∧ ch ≠ 'X' ∧ ch ≠ 'Y' ∧ ch ≠ 'Z' := fun ch h =>
  (by decide +kernel : ∀ ch ∈ numAlphabet, ch ≠ '+' ∧ ch ≠ '-' ∧ ch ≠ 'X' ∧ ch ≠ 'Y' ∧ ch ≠ 'Z') ch
    (numeral_chars_sub v ch h)

theorem axis_not_in_numeral (a : Axis) (v : Numeral) : a.char ∉ v.chars := by
  intro h
  have := numeral_chars_ne v _ h
  cases a <;> simp [Axis.char] at this

theorem axis_not_in_sign (a : Axis) (s : Sign) : a.char ∉ s.chars := by
  cases a <;> cases s <;> decide

theorem axis_char_inj {a b : Axis} (h : a.char = b.char) : a = b := by
  cases a <;> cases b <;> revert h <;> decide

theorem partitionAt_append_of_not_mem (c : Char) (w rest : List Char) (h : c ∉ w) :
    partitionAt c (w ++ rest) = (partitionAt c rest).map fun p => (w ++ p.1, p.2) := by
  induction w with
  | nil => simp
  | cons x w ih =>
    rw [List.mem_cons, not_or] at h
    simp only [List.cons_append, partitionAt, Ne.symm h.1, if_false, ih h.2, Option.map_map]
    rfl

theorem print_append (p q : Component) : print (p ++ q) = print p ++ print q := by
  induction p with
  | nil => rfl
  | cons i r ih => simp [print, ih]

theorem axisCount_term_eq_zero {a b : Axis} {s : Sign} {r : Component} :
    axisCount a (.term s b :: r) = 0 ↔ b ≠ a ∧ axisCount a r = 0 := by
  simp [axisCount]

theorem axis_not_in_print {a : Axis} {c : Component} (h : axisCount a c = 0) : a.char ∉ print c := by
  induction c with
  | nil => simp [print]
  | cons i r ih =>
    cases i with
    | term s b =>
      obtain ⟨hb, hr⟩ := axisCount_term_eq_zero.1 h
      simp only [print, Item.chars, List.mem_append, List.mem_singleton, not_or]
      exact ⟨⟨axis_not_in_sign a s, fun e => hb (axis_char_inj e).symm⟩, ih hr⟩
    | num s v =>
      simp only [print, Item.chars, List.mem_append, not_or]
      exact ⟨⟨axis_not_in_sign a s, axis_not_in_numeral a v⟩, ih h⟩

theorem exists_term {a : Axis} {c : Component} (h : axisCount a c ≠ 0) : ∃ p s q, c = p ++ .term s a :: q := by
  induction c with
  | nil => exact absurd rfl h
  | cons i r ih =>
    by_cases hi : ∃ s, i = .term s a
    · obtain ⟨s, rfl⟩ := hi
      exact ⟨[], s, r, rfl⟩
    · have hr : axisCount a r ≠ 0 := by
        cases i with
        | term s b =>
          have : b ≠ a := fun e => hi ⟨s, e ▸ rfl⟩
          simpa [axisCount, this] using h
        | num s v => exact h
      obtain ⟨p, s, q, rfl⟩ := ih hr
      exact ⟨i :: p, s, q, rfl⟩

/-- `+` and no sign mean the same; `.replace('+', '')` turns the first into the second -/
def Sign.strip : Sign → Sign
  | .plus => .none
  | s => s

def stripPlus : Item → Item
  | .term s a => .term s.strip a
  | .num s v => .num s.strip v

theorem toInt_strip (s : Sign) : s.strip.toInt = s.toInt := by
  cases s <;> rfl

theorem removePlus_sign (s : Sign) : removePlus s.chars = s.strip.chars := by
  cases s <;> rfl

theorem removePlus_append (u v : List Char) : removePlus (u ++ v) = removePlus u ++ removePlus v := by
  simp [removePlus]

theorem removePlus_numeral (v : Numeral) : removePlus v.chars = v.chars := by
  simp only [removePlus, List.filter_eq_self, decide_eq_true_eq]
  exact fun ch h => (numeral_chars_ne v ch h).1

theorem removePlus_item (i : Item) : removePlus i.chars = (stripPlus i).chars := by
  cases i with
  | term s a => rw [Item.chars, removePlus_append, removePlus_sign]; cases a <;> rfl
  | num s v => rw [Item.chars, removePlus_append, removePlus_sign, removePlus_numeral]; rfl

theorem removePlus_print (c : Component) : removePlus (print c) = print (c.map stripPlus) := by
  induction c with
  | nil => rfl
  | cons i r ih => rw [print, removePlus_append, removePlus_item, ih]; rfl

theorem numeral_chars_ne_nil {v : Numeral} (h : v.wf = true) : v.chars ≠ [] := by
  cases v with
  | int ip => simpa [Numeral.wf, Numeral.chars, digitsChars] using h
  | _ => simp [Numeral.chars]

/-- an item ends in its axis letter or in a character of its numeral (not empty when well formed), never in a sign -/
theorem getLast?_print_ne_minus (p : Component) (h : allWf p = true) : (print p).getLast? ≠ some '-' := by
  induction p with
  | nil => simp [print]
  | cons i r ih =>
    have hi : i.chars.getLast? ≠ some '-' := by
      cases i with
      | term s a => cases a <;> simp [Item.chars, Axis.char]
      | num s v =>
        have hv : v.chars.getLast? ≠ some '-' := fun e => (numeral_chars_ne v _ (List.mem_of_getLast? e)).2.1 rfl
        have hne : v.chars.getLast? ≠ none := by
          simpa [List.getLast?_eq_none_iff] using numeral_chars_ne_nil (by simp_all [allWf])
        simp [Item.chars, List.getLast?_append, Option.or_eq_some_iff, hv, hne]
    have hr : (print r).getLast? ≠ some '-' := ih (by cases i <;> simp_all [allWf])
    simp [print, List.getLast?_append, Option.or_eq_some_iff, hi, hr]

theorem partitionModel_absent {a : Axis} {c : Component} (h : axisCount a c = 0) :
    partitionModel (print c) a.char = (0, print c) := by
  have := partitionAt_append_of_not_mem a.char (print c) [] (axis_not_in_print h)
  simp only [List.append_nil, partitionAt, Option.map_none] at this
  simp only [partitionModel, this]

/-- the first term of axis `a` disappears; unless its sign is `-`, every `+` disappears too -/
theorem partitionModel_term (a : Axis) (p : Component) (s : Sign) (q : Component) (hp : allWf p = true)
    (ha : axisCount a p = 0) :
    partitionModel (print (p ++ .term s a :: q)) a.char =
      (s.toInt, print (if s = .minus then p ++ q else (p ++ q).map stripPlus)) := by
  have hw : a.char ∉ print p ++ s.chars := by
    simp only [List.mem_append, not_or]
    exact ⟨axis_not_in_print ha, axis_not_in_sign a s⟩
  have := partitionAt_append_of_not_mem a.char _ (a.char :: print q) hw
  simp only [partitionAt, if_true, Option.map_some, List.append_nil] at this
  have e : print (p ++ .term s a :: q) = print p ++ s.chars ++ a.char :: print q := by
    simp [print_append, print, Item.chars]
  simp only [partitionModel, e, this]
  have hl := getLast?_print_ne_minus p hp
  cases s with
  | minus => simp [Sign.chars, print_append, Sign.toInt]
  | plus => simp [Sign.chars, print_append, Sign.toInt, ← removePlus_print, removePlus]
  | none =>
    -- no sign written: `_partition` takes the last character of `print p` for the sign, and that is not `-` (`hl`)
    simp only [Sign.chars, List.append_nil, reduceCtorEq, if_false, Sign.toInt, ← removePlus_print, print_append]
    cases hg : (print p).getLast? with
    | none => rfl
    | some ch => rw [if_neg fun e => hl (hg.trans (congrArg some e))]

theorem coef_append (a : Axis) (p q : Component) : coef a (p ++ q) = coef a p + coef a q := by
  induction p with
  | nil => simp [coef]
  | cons i r ih => cases i <;> simp [coef, ih, Int.add_assoc]

theorem axisCount_append (a : Axis) (p q : Component) : axisCount a (p ++ q) = axisCount a p + axisCount a q := by
  induction p with
  | nil => simp [axisCount]
  | cons i r ih => cases i <;> simp [axisCount, ih, Nat.add_assoc]

theorem numCount_append (p q : Component) : numCount (p ++ q) = numCount p + numCount q := by
  induction p with
  | nil => simp [numCount]
  | cons i r ih => cases i <;> simp [numCount, ih, Nat.add_assoc]

theorem transOf_append (p q : Component) : transOf (p ++ q) = transOf p + transOf q := by
  induction p with
  | nil => simp [transOf]
  | cons i r ih => cases i <;> simp [transOf, ih, Rat.add_assoc]

theorem allWf_append (p q : Component) : allWf (p ++ q) = (allWf p && allWf q) := by
  induction p with
  | nil => simp [allWf]
  | cons i r ih => cases i <;> simp [allWf, ih, Bool.and_assoc]

theorem stripPlus_preserves (c : Component) :
    allWf (c.map stripPlus) = allWf c ∧ numCount (c.map stripPlus) = numCount c ∧ transOf (c.map stripPlus) = transOf c ∧
      ∀ a, axisCount a (c.map stripPlus) = axisCount a c ∧ coef a (c.map stripPlus) = coef a c := by
  induction c with
  | nil => exact ⟨rfl, rfl, rfl, fun _ => ⟨rfl, rfl⟩⟩
  | cons i r ih =>
    obtain ⟨h1, h2, h3, h4⟩ := ih
    cases i <;> simp [stripPlus, allWf, numCount, transOf, axisCount, coef, toInt_strip, h1, h2, h3, h4]

theorem coef_eq_zero {a : Axis} {c : Component} (h : axisCount a c = 0) : coef a c = 0 := by
  induction c with
  | nil => rfl
  | cons i r ih =>
    cases i with
    | term s b =>
      obtain ⟨hb, hr⟩ := axisCount_term_eq_zero.1 h
      simp [coef, hb, ih hr]
    | num s v => exact ih h

theorem coef_term {a : Axis} {p q : Component} {s : Sign} (h : axisCount a (p ++ .term s a :: q) ≤ 1) :
    axisCount a p = 0 ∧ axisCount a q = 0 ∧ coef a (p ++ .term s a :: q) = s.toInt := by
  simp only [axisCount_append, axisCount, if_true] at h
  have hp : axisCount a p = 0 := by omega
  have hq : axisCount a q = 0 := by omega
  simp [hp, hq, coef_append, coef, coef_eq_zero]

/-- `c` has no term of the axes in `done` and otherwise reads to the parser as `c₀` does: same counts, coefficients of
    the other axes and translation (`+` signs may be gone: `c` need not be a sublist of `c₀`). -/
structure Left (done : List Axis) (c₀ c : Component) : Prop where
  wf : allWf c = true
  gone : ∀ a ∈ done, axisCount a c = 0
  count : ∀ a ∉ done, axisCount a c = axisCount a c₀
  coef : ∀ a ∉ done, coef a c = coef a c₀
  num : numCount c = numCount c₀
  trans : transOf c = transOf c₀

theorem left_strip {done : List Axis} {c₀ c : Component} (h : Left done c₀ c) : Left done c₀ (c.map stripPlus) := by
  obtain ⟨h1, h2, h3, h4⟩ := stripPlus_preserves c
  constructor <;> simp only [h1, h2, h3, h4]
  exacts [h.wf, h.gone, h.count, h.coef, h.num, h.trans]

/-- One round of the loop of `_parse_line`: from the print of a `c` left of `c₀`, `_partition` takes the coefficient of `a`
    in `c₀` and leaves the print of a `c'` left of `c₀` with `a` done as well. -/
theorem partitionModel_left {done : List Axis} {c₀ c : Component} {a : Axis} (h : Left done c₀ c) (ha : a ∉ done)
    (h1 : axisCount a c₀ ≤ 1) :
    ∃ c', partitionModel (print c) a.char = (coef a c₀, print c') ∧ Left (a :: done) c₀ c' := by
  rw [← h.count a ha] at h1
  rw [← h.coef a ha]
  by_cases h0 : axisCount a c = 0
  · refine ⟨c, by rw [coef_eq_zero h0, partitionModel_absent h0], { h with gone := ?_, count := ?_, coef := ?_ }⟩
    · intro b hb
      rcases List.mem_cons.1 hb with rfl | hb
      exacts [h0, h.gone b hb]
    · exact fun b hb => h.count b fun hd => hb (List.mem_cons_of_mem a hd)
    · exact fun b hb => h.coef b fun hd => hb (List.mem_cons_of_mem a hd)
  · obtain ⟨p, s, q, rfl⟩ := exists_term h0
    obtain ⟨hp, hq, hs⟩ := coef_term h1
    have hwf := h.wf
    simp only [allWf_append, allWf, Bool.and_eq_true] at hwf
    refine ⟨_, by rw [hs, partitionModel_term a p s q hwf.1 hp], ?_⟩
    have hl : Left (a :: done) c₀ (p ++ q) := by
      constructor
      · simpa [allWf_append] using hwf
      · intro b hb
        rcases List.mem_cons.1 hb with rfl | hb
        · simp [axisCount_append, hp, hq]
        · have := h.gone b hb
          simp only [axisCount_append, axisCount] at this ⊢
          omega
      · intro b hb
        rw [List.mem_cons, not_or] at hb
        simp [← h.count b hb.2, axisCount_append, axisCount, Ne.symm hb.1]
      · intro b hb
        rw [List.mem_cons, not_or] at hb
        simp [← h.coef b hb.2, coef_append, coef, Ne.symm hb.1]
      · simp [← h.num, numCount_append, numCount]
      · simp [← h.trans, transOf_append, transOf]
    split
    exacts [hl, left_strip hl]

theorem unsigned_of_head {w : List Char} (hw : ∀ ch ∈ w.head?, ch ≠ '+' ∧ ch ≠ '-') :
    pyFloat w = pyFloatUnsigned w ∧ evalFrac w = evalFracUnsigned w := by
  cases w with
  | nil => exact ⟨rfl, rfl⟩
  | cons ch t =>
    obtain ⟨hp, hm⟩ := hw ch rfl
    have hne : ∀ c : Char, ch ≠ c → ∀ r, ch :: t = c :: r → False := fun c hc r e => hc (List.cons.inj e).1
    constructor
    -- the equation of the last arm (`| _ =>`) holds where the first two do not match: `rw` leaves these two side goals
    · rw [pyFloat]
      exacts [hne _ hp, hne _ hm]
    · rw [evalFrac]
      exacts [hne _ hp, hne _ hm]

theorem floatModel_cons {c : Char} {w : List Char} {g : Rat → Rat} (hc : '/' ≠ c)
    (h1 : pyFloat (c :: w) = (pyFloat w).map g) (h2 : evalFrac (c :: w) = (evalFrac w).map g) :
    floatModel (c :: w) = (floatModel w).map g := by
  simp only [floatModel, h1, h2, List.mem_cons, hc, false_or]
  cases pyFloat w with
  | some r => rfl
  | none =>
    by_cases hs : '/' ∈ w
    · simp only [Option.map_none, hs, if_true]
    · simp only [Option.map_none, hs, if_false]; rfl

theorem floatModel_sign (s : Sign) {w : List Char} (hw : ∀ ch ∈ w.head?, ch ≠ '+' ∧ ch ≠ '-') :
    floatModel (s.chars ++ w) = (floatModel w).map fun x => (s.toInt : Rat) * x := by
  obtain ⟨hp, he⟩ := unsigned_of_head hw
  have hone : (fun x : Rat => ((1 : Int) : Rat) * x) = id := by funext x; simp
  have hneg : (fun x : Rat => ((-1 : Int) : Rat) * x) = fun x => -x := by funext x; simp
  cases s with
  | none => simp only [Sign.chars, Sign.toInt, hone, List.nil_append]; cases floatModel w <;> rfl
  | plus =>
    simp only [Sign.chars, Sign.toInt, hone, List.singleton_append]
    exact floatModel_cons (by decide) (by rw [Option.map_id, hp]; rfl) (by rw [evalFrac]; cases evalFrac w <;> rfl)
  | minus =>
    simp only [Sign.chars, Sign.toInt, hneg, List.singleton_append]
    exact floatModel_cons (by decide) (by rw [hp]; rfl) (by rw [evalFrac])

theorem numeral_head (v : Numeral) : ∀ ch ∈ v.chars.head?, ch ≠ '+' ∧ ch ≠ '-' := fun ch h =>
  have h := numeral_chars_ne v ch (List.mem_of_mem_head? h)
  ⟨h.1, h.2.1⟩

/-- `float()` reads the integers and decimals, `eval` the fractions -/
theorem floatModel_numeral_chars (v : Numeral) (h : v.wf = true) : floatModel v.chars = .ok v.value := by
  obtain ⟨hp, he⟩ := unsigned_of_head (numeral_head v)
  have hnil : ∀ ds, spanDigits (digitsChars ds) = (vals ds, []) := fun ds => by
    simpa using spanDigits_digits ds [] (by simp)
  simp only [floatModel, hp, he]
  cases v with
  | frac n d =>
    simp only [Numeral.wf, Bool.decide_and, Bool.and_eq_true, decide_eq_true_eq] at h
    have : spanDigits (digitsChars n ++ '/' :: digitsChars d) = (vals n, '/' :: digitsChars d) :=
      spanDigits_digits n _ (by simp; decide)
    simp [pyFloatUnsigned, evalFracUnsigned, Numeral.chars, this, hnil, vals_eq_nil, h, natOfDigits_vals, Numeral.value]
  | int ip =>
    simp only [Numeral.wf, decide_eq_true_eq] at h
    simp [pyFloatUnsigned, Numeral.chars, hnil, vals_eq_nil, h, natOfDigits_vals, Numeral.value]
  | dec ip fp =>
    simp only [Numeral.wf, Bool.decide_or, Bool.or_eq_true, decide_eq_true_eq] at h
    have : spanDigits (digitsChars ip ++ '.' :: digitsChars fp) = (vals ip, '.' :: digitsChars fp) :=
      spanDigits_digits ip _ (by simp; decide)
    have hne : ¬ (ip = [] ∧ fp = []) := fun hh => h.elim (· hh.1) (· hh.2)
    simp [pyFloatUnsigned, Numeral.chars, this, hnil, vals_eq_nil, hne, natOfDigits_vals, value_dec]

theorem floatModel_numeral (s : Sign) (v : Numeral) (h : v.wf = true) :
    floatModel (s.chars ++ v.chars) = .ok ((s.toInt : Rat) * v.value) := by
  rw [floatModel_sign s (numeral_head v), floatModel_numeral_chars v h]
  rfl

theorem eq_nil_or_num : ∀ {c : Component}, (∀ a, axisCount a c = 0) → numCount c ≤ 1 → c = [] ∨ ∃ s v, c = [.num s v]
  | [], _, _ => .inl rfl
  | [.num s v], _, _ => .inr ⟨s, v, rfl⟩
  | .term _ a :: _, h, _ => absurd (h a) (by simp [axisCount])
  | .num _ _ :: .term _ a :: _, h, _ => absurd (h a) (by simp [axisCount])
  | .num _ _ :: .num _ _ :: _, _, hn => absurd hn (by simp [numCount])

theorem parseComp_of_normalise (c : Component) (h : Valid c = true) (t : List Char) (ht : normalise t = print c) :
    parseComp t = .ok (denote c) := by
  simp only [Valid, Bool.decide_and, Bool.and_eq_true, decide_eq_true_eq] at h
  obtain ⟨hx, hy, hz, hn, hwf⟩ := h
  have l0 : Left [] c c := ⟨hwf, by simp, fun _ _ => rfl, fun _ _ => rfl, rfl, rfl⟩
  obtain ⟨c1, e1, l1⟩ := partitionModel_left (a := .x) l0 (by simp) hx
  obtain ⟨c2, e2, l2⟩ := partitionModel_left (a := .y) l1 (by decide) hy
  obtain ⟨c3, e3, l3⟩ := partitionModel_left (a := .z) l2 (by decide) hz
  simp only [Axis.char] at e1 e2 e3
  simp only [parseComp, ht, e1, e2, e3, denote, ← l3.trans]
  rcases eq_nil_or_num (fun a => l3.gone a (by cases a <;> decide)) (l3.num ▸ hn) with rfl | ⟨s, v, rfl⟩
  · rfl
  · have hv : v.wf = true := by simpa [allWf] using l3.wf
    have hne : s.chars ++ v.chars ≠ [] := by simp [numeral_chars_ne_nil hv]
    simp [print, Item.chars, hne, floatModel_numeral s v hv, transOf, Except.map]

theorem alphabet_upper : ∀ ch ∈ alphabet, ch.toUpper = ch ∧ ch.toLower.toUpper = ch ∧ ch ≠ ' ' := by
  decide +kernel

theorem normalise_cons (ch : Char) (t : List Char) :
    normalise (ch :: t) = if ch.toUpper ≠ ' ' then ch.toUpper :: normalise t else normalise t := by
  simp only [normalise, List.map_cons, List.filter_cons]
  by_cases h : ch.toUpper = ' ' <;> simp [h]

theorem normalise_relayout {s t : List Char} (hs : ∀ ch ∈ s, ch ∈ alphabet) (h : Relayout s t) :
    normalise t = s := by
  induction h with
  | nil => rfl
  | blank _ ih => rw [normalise_cons]; simpa using ih hs
  | same ch _ ih =>
    obtain ⟨hu, -, hb⟩ := alphabet_upper ch (hs ch (by simp))
    rw [normalise_cons, hu, if_pos hb, ih fun x hx => hs x (by simp [hx])]
  | lower ch _ ih =>
    obtain ⟨-, hl, hb⟩ := alphabet_upper ch (hs ch (by simp))
    rw [normalise_cons, hl, if_pos hb, ih fun x hx => hs x (by simp [hx])]

theorem relayout_refl (s : List Char) : Relayout s s := by
  induction s with
  | nil => exact .nil
  | cons c s ih => exact .same c ih

end Shelx.C10
