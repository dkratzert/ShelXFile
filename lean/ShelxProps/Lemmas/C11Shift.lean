/-
  C11 — the same group referred to another origin (`shiftOp`, `shiftSetting` of
  ShelxModel/C11Core.lean). Moving the origin is conjugation by a translation: it is compatible with composition and
  with equality modulo ℤ³, so validity (no class twice) and closure of a setting carry over to every origin, and the
  LATT/SYMM decomposition `shiftSetting` generates exactly the moved group.
-/
import ShelxModel.C11Core
import ShelxProps.Lemmas.C11Closed
import Mathlib.Tactic.Ring
import Mathlib.Data.List.Perm.Basic

namespace Shelx.C11
open List

theorem shiftOp_eq_conj (u : Vec) (o : Op) : shiftOp u o = comp (transl u) (comp o (transl u.neg)) := by
  obtain ⟨⟨a11, a12, a13, a21, a22, a23, a31, a32, a33⟩, ⟨x, y, z⟩⟩ := o
  obtain ⟨ux, uy, uz⟩ := u
  simp only [shiftOp, comp, transl, Mat.mul, Mat.mulVec, Mat.one, Vec.add, Vec.neg, Op.mk.injEq, Mat.mk.injEq,
    Vec.mk.injEq]
  refine ⟨⟨?_, ?_, ?_, ?_, ?_, ?_, ?_, ?_, ?_⟩, ?_, ?_, ?_⟩ <;> ring

theorem shiftOp_comp (u : Vec) (a b : Op) : shiftOp u (comp a b) = comp (shiftOp u a) (shiftOp u b) := by
  have h : comp (transl u.neg) (transl u) = ident := by
    obtain ⟨ux, uy, uz⟩ := u
    rw [comp_transl]
    simp [transl, ident, Vec.add, Vec.neg, Vec.zero]
  simp only [shiftOp_eq_conj, comp_assoc]
  rw [← comp_assoc (transl u.neg) (transl u), h, comp_ident]

theorem shiftOp_transl (u c : Vec) : shiftOp u (transl c) = transl c := by
  obtain ⟨ux, uy, uz⟩ := u
  obtain ⟨cx, cy, cz⟩ := c
  simp [shiftOp, transl, Mat.one, Mat.mulVec, Vec.add, Vec.neg]

theorem shiftOp_ident (u : Vec) : shiftOp u ident = ident := shiftOp_transl u Vec.zero

theorem shiftOp_neg_shiftOp (u : Vec) (a : Op) : shiftOp u.neg (shiftOp u a) = a := by
  obtain ⟨⟨a11, a12, a13, a21, a22, a23, a31, a32, a33⟩, ⟨ax, ay, az⟩⟩ := a
  obtain ⟨ux, uy, uz⟩ := u
  simp only [shiftOp, Mat.mulVec, Vec.add, Vec.neg, Op.mk.injEq, Vec.mk.injEq, true_and]
  refine ⟨?_, ?_, ?_⟩ <;> ring

theorem cls_shiftOp_congr (u : Vec) {a b : Op} (h : cls a = cls b) : cls (shiftOp u a) = cls (shiftOp u b) := by
  rw [shiftOp_eq_conj, shiftOp_eq_conj]
  exact cls_comp_congr rfl (cls_comp_congr h rfl)

theorem nodup_map_shiftOp (u : Vec) {G : List Op} (h : (G.map cls).Nodup) : ((G.map (shiftOp u)).map cls).Nodup := by
  rw [List.map_map]
  unfold List.Nodup at h ⊢
  rw [List.pairwise_map] at h ⊢
  refine h.imp fun hne heq => hne ?_
  simpa only [shiftOp_neg_shiftOp] using cls_shiftOp_congr u.neg heq

theorem closed_map_shiftOp (u : Vec) {G : List Op} (h : Closed G) : Closed (G.map (shiftOp u)) := by
  intro a' ha' b' hb'
  obtain ⟨a, ha, rfl⟩ := List.mem_map.mp ha'
  obtain ⟨b, hb, rfl⟩ := List.mem_map.mp hb'
  obtain ⟨g, hg, e⟩ := List.mem_map.mp (h a ha b hb)
  rw [← shiftOp_comp]
  exact List.mem_map.mpr ⟨shiftOp u g, List.mem_map_of_mem hg, cls_shiftOp_congr u e⟩

theorem map_shiftOp_fullGroupWith_false (u : Vec) (C : List Vec) (S : List Op) :
    (fullGroupWith C false S).map (shiftOp u) = fullGroupWith C false (S.map (shiftOp u)) := by
  simp only [fullGroupWith, List.flatMap_cons, List.map_append, List.map_flatMap, List.flatMap_map, shiftOp_comp,
    shiftOp_transl, shiftOp_ident, signs, Bool.false_eq_true, if_false, List.map_cons, List.map_nil]

/-- a centrosymmetric setting is the acentric one with the inversion and the inverted operators as SYMM lines -/
theorem fullGroupWith_true_perm (C : List Vec) (S : List Op) :
    fullGroupWith C true S ~ fullGroupWith C false (inversion :: S.flatMap fun s => [s, comp inversion s]) := by
  have : ident :: inversion :: (S.flatMap fun s => [s, comp inversion s])
      = (ident :: S).flatMap fun s => [s, comp inversion s] := by
    rw [List.flatMap_cons, comp_ident_right]; rfl
  unfold fullGroupWith
  rw [this, List.flatMap_assoc]
  generalize Vec.zero :: C = Z
  refine List.Perm.flatMap_left _ fun s _ => ?_
  simp only [signs, if_true, Bool.false_eq_true, if_false, List.map_cons, List.map_nil, List.flatMap_cons, List.flatMap_nil,
    List.append_nil, comp_ident, ← List.map_eq_flatMap]
  exact perm_flatMap_pair _ _ Z

theorem specCentring_neg (N : Int) : specCentring (-N) = specCentring N := by
  unfold specCentring; rw [Int.natAbs_neg]

theorem centricOf_neg_of_centric {N : Int} (h : centricOf N = true) : centricOf (-N) = false := by
  simp only [centricOf, decide_eq_true_eq, decide_eq_false_iff_not] at h ⊢
  omega

theorem fullGroup_shiftSetting_perm (u : Vec) (N : Int) (S : List Op) :
    fullGroup (shiftSetting u N S).1 (shiftSetting u N S).2 ~ (fullGroup N S).map (shiftOp u) := by
  unfold shiftSetting fullGroup
  cases hc : centricOf N with
  | false => simp only [Bool.false_eq_true, if_false, hc, map_shiftOp_fullGroupWith_false, List.Perm.refl]
  | true =>
    have : shiftOp u inversion :: (S.flatMap fun s => [shiftOp u s, shiftOp u (comp inversion s)])
        = (inversion :: S.flatMap fun s => [s, comp inversion s]).map (shiftOp u) := by
      simp [List.map_flatMap]
    simp only [if_true, centricOf_neg_of_centric hc, specCentring_neg, this, ← map_shiftOp_fullGroupWith_false]
    exact ((fullGroupWith_true_perm _ S).map _).symm

theorem natAbs_shiftSetting (u : Vec) (N : Int) (S : List Op) : (shiftSetting u N S).1.natAbs = N.natAbs := by
  unfold shiftSetting
  split <;> simp

theorem shiftSetting_valid_closed (u : Vec) (N : Int) (S : List Op) (hv : ValidSetting N S) (hc : ClosedSetting N S) :
    ValidSetting (shiftSetting u N S).1 (shiftSetting u N S).2 ∧
    ClosedSetting (shiftSetting u N S).1 (shiftSetting u N S).2 := by
  have hp := (fullGroup_shiftSetting_perm u N S).map cls
  refine ⟨⟨by rw [natAbs_shiftSetting]; exact hv.1, hp.nodup_iff.mpr (nodup_map_shiftOp u hv.2)⟩, ?_⟩
  exact closed_of_perm hp (closed_map_shiftOp u hc)

end Shelx.C11
