/-
  C06 — the greedy loop of `textwrap` on chunk lists (`fill`, `lineStep`, `wrapLoop`), for any list of runs: what
  `chunks` produces is not used here.
-/
import ShelxProps.Lemmas.C06Text

namespace Shelx.C06

/-- chunk lists as `chunks` makes them and every pass of the wrapping loop leaves them -/
def Runs : List (List Char) → Prop
  | [] => True
  | a :: rest => a ≠ [] ∧ (AllBlank a ∨ NoBlank a ∧ ∀ b ∈ rest.head?, AllBlank b) ∧ Runs rest

/-- every run of non-blanks has at most `W` characters (a run of blanks may be longer) -/
def Short (W : Nat) (chs : List (List Char)) : Prop := ∀ ch ∈ chs, AllBlank ch ∨ ch.length ≤ W

namespace Runs

theorem mem {chs : List (List Char)} (h : Runs chs) : ∀ ch ∈ chs, ch ≠ [] ∧ (AllBlank ch ∨ NoBlank ch) := by
  induction chs with
  | nil => simp
  | cons a rest ih => exact List.forall_mem_cons.mpr ⟨⟨h.1, h.2.1.imp_right (·.1)⟩, ih h.2.2⟩

theorem suffix {pre suf : List (List Char)} (h : Runs (pre ++ suf)) : Runs suf := by
  induction pre with
  | nil => exact h
  | cons a pre ih => exact ih h.2.2

theorem cutAtBlank {pre suf : List (List Char)} (h : Runs (pre ++ suf)) :
    CutAtBlank pre.flatten suf.flatten := by
  rcases List.eq_nil_or_concat pre with rfl | ⟨pre', a, rfl⟩
  · intro x hx; simp at hx
  · cases suf with
    | nil => intro _ _ y hy; simp at hy
    | cons b suf =>
      rw [List.concat_eq_append, List.append_assoc] at h
      obtain ⟨ha, hab, hb, _⟩ := h.suffix
      rw [List.concat_eq_append, List.flatten_append, List.flatten_singleton, List.flatten_cons]
      rcases hab with hab | hab
      · exact CutAtBlank.blank_left _ hab ha _
      · exact CutAtBlank.blank_right _ (hab.2 b rfl) hb _

end Runs

theorem tokens_flatten {chs : List (List Char)} (h : Runs chs) : tokens chs.flatten = chs.flatMap tokens := by
  induction chs with
  | nil => exact tokens_hom.nil
  | cons a rest ih =>
    have hs : CutAtBlank [a].flatten rest.flatten := Runs.cutAtBlank h
    rw [List.flatten_singleton] at hs
    rw [List.flatten_cons, tokens_append_of_cutAtBlank _ _ hs, ih h.2.2, List.flatMap_cons]

theorem fill_spec (w : Nat) (chs : List (List Char)) (cur : Nat) (h : cur ≤ w) :
    ∃ pre suf, fill w cur chs = (pre.flatten, suf) ∧ chs = pre ++ suf ∧ cur + pre.flatten.length ≤ w ∧
      ∀ ch ∈ suf.head?, w < cur + pre.flatten.length + ch.length := by
  induction chs generalizing cur with
  | nil => exact ⟨[], [], rfl, rfl, h, fun _ h => (nomatch h)⟩
  | cons ch rest ih =>
    by_cases hfit : cur + ch.length ≤ w
    · obtain ⟨pre, suf, h1, h2, h3, h4⟩ := ih (cur + ch.length) hfit
      rw [Nat.add_assoc, ← List.length_append, ← List.flatten_cons] at h3 h4
      exact ⟨ch :: pre, suf, by simp only [fill, hfit, if_true, h1, List.flatten_cons], by rw [h2, List.cons_append],
        h3, h4⟩
    · refine ⟨[], ch :: rest, by simp only [fill, hfit, if_false, List.flatten_nil], rfl, h, fun c hc => ?_⟩
      obtain rfl := Option.mem_some_iff.mp hc
      exact Nat.not_le.mp hfit

/-- The chunks left over by one pass of the outer loop are runs again even when a long word is broken; only the cut is
    then not next to a blank, which `Short W` with `W ≤ w` excludes. -/
theorem lineStep_spec (w : Nat) (hw : 1 ≤ w) (chs : List (List Char)) (hr : Runs chs) (h0 : chs ≠ []) :
    ∃ p rest, lineStep w chs = (p, rest) ∧ p ++ rest.flatten = chs.flatten ∧ p ≠ [] ∧ p.length ≤ w ∧ Runs rest ∧
      ∀ W ≤ w, Short W chs → Short W rest ∧ CutAtBlank p rest.flatten := by
  have hpos : 0 < chs.flatten.length := by
    obtain ⟨c, cs, rfl⟩ := List.exists_cons_of_ne_nil h0
    have := List.length_pos_iff.mpr hr.1
    rw [List.flatten_cons, List.length_append]
    omega
  obtain ⟨pre, suf, hF, rfl, h3, h4⟩ := fill_spec w chs 0 (Nat.zero_le w)
  rw [Nat.zero_add] at h3 h4
  rw [List.flatten_append, List.length_append] at hpos
  simp only [← List.length_pos_iff, List.flatten_append]
  rcases suf with _ | ⟨ch, rest⟩
  · refine ⟨pre.flatten, [], by simp only [lineStep, hF], rfl, hpos, h3, trivial, fun W _ _ =>
      ⟨fun _ h => (nomatch h), fun _ _ y hy => by simp at hy⟩⟩
  · have hsuf : Runs (ch :: rest) := hr.suffix
    have h4 := h4 ch rfl
    by_cases hlong : w < ch.length
    · generalize hk : w - pre.flatten.length = k
      have hk' : pre.flatten.length + k = w := hk ▸ Nat.add_sub_cancel' h3
      have hkl : k < ch.length := Nat.lt_of_le_of_lt (hk ▸ Nat.sub_le w _) hlong
      have hdne : ch.drop k ≠ [] := mt List.drop_eq_nil_iff.mp (Nat.not_le.mpr hkl)
      have hdb : AllBlank ch → AllBlank (ch.drop k) := fun h x hx => h x (List.mem_of_mem_drop hx)
      have hpl : (pre.flatten ++ ch.take k).length = w := by
        rw [List.length_append, List.length_take_of_le (Nat.le_of_lt hkl), hk']
      -- the long chunk `ch` is cut after `k` characters, which fill the line
      have hstep : lineStep w (pre ++ ch :: rest) = (pre.flatten ++ ch.take k, ch.drop k :: rest) := by
        simp only [lineStep, hF, gt_iff_lt, hlong, if_true, Nat.not_lt.mpr hw, if_false, hk]
      have hflat : pre.flatten ++ ch.take k ++ (ch.drop k :: rest).flatten = pre.flatten ++ (ch :: rest).flatten := by
        rw [List.flatten_cons, List.flatten_cons, List.append_assoc, ← List.append_assoc (ch.take k),
          List.take_append_drop]
      have hruns : Runs (ch.drop k :: rest) :=
        ⟨hdne, hsuf.2.1.imp hdb fun h => ⟨fun x hx => h.1 x (List.mem_of_mem_drop hx), h.2⟩, hsuf.2.2⟩
      refine ⟨_, _, hstep, hflat, hpl ▸ hw, Nat.le_of_eq hpl, hruns, fun W hW hs => ?_⟩
      -- a chunk that is longer than `w` is a run of blanks, and so is what is left of it
      have hs' := List.forall_mem_cons.mp fun c hc => hs c (List.mem_append_right _ hc)
      have hb : AllBlank (ch.drop k) := hdb (hs'.1.resolve_right (Nat.not_le.mpr (Nat.lt_of_le_of_lt hW hlong)))
      exact ⟨List.forall_mem_cons.mpr ⟨Or.inl hb, hs'.2⟩, CutAtBlank.blank_right _ hb hdne _⟩
    · exact ⟨pre.flatten, ch :: rest, by simp only [lineStep, hF, gt_iff_lt, hlong, if_false], rfl, by omega, h3, hsuf,
        fun W _ hs => ⟨fun c hc => hs c (List.mem_append_right _ hc), hr.cutAtBlank⟩⟩

/-- The lines the loop makes, put together, are the text; the first is non-empty and at most `w` long, the others at most
    `w'`. When no run of non-blanks is longer than a line, every line break is next to a blank, so that the lines have
    the tokens of the text. -/
theorem wrapLoop_spec (w' : Nat) (hw' : 1 ≤ w') (fuel w : Nat) (chs : List (List Char)) (hw : 1 ≤ w) (hr : Runs chs)
    (hf : chs.flatten.length < fuel) :
    (wrapLoop w' fuel w chs).flatten = chs.flatten ∧
      (∀ p ps, wrapLoop w' fuel w chs = p :: ps → p ≠ [] ∧ p.length ≤ w ∧ ∀ q ∈ ps, q.length ≤ w') ∧
      ∀ W, W ≤ w → W ≤ w' → Short W chs → (wrapLoop w' fuel w chs).flatMap tokens = tokens chs.flatten := by
  induction fuel generalizing w chs with
  | zero => omega
  | succ fuel ih =>
    cases chs with
    | nil => simp [wrapLoop, tokens_hom.nil]
    | cons ch chs =>
      obtain ⟨p, rest, e, h1, h2, h3, h4, h5⟩ := lineStep_spec w hw (ch :: chs) hr (List.cons_ne_nil _ _)
      have hlen : rest.flatten.length < fuel := by
        have := congrArg List.length h1
        have := List.length_pos_iff.mpr h2
        rw [List.length_append] at *
        omega
      obtain ⟨i1, i2, i3⟩ := ih w' rest hw' h4 hlen
      simp only [wrapLoop, e]
      refine ⟨by rw [List.flatten_cons, i1, h1], fun p ps e => ?_, fun W hW hW' hs => ?_⟩
      · obtain ⟨rfl, rfl⟩ := List.cons.inj e
        refine ⟨h2, h3, fun q hq => ?_⟩
        obtain ⟨t, ts, ht⟩ := List.exists_cons_of_ne_nil (List.ne_nil_of_mem hq)
        rw [ht] at hq
        exact (List.forall_mem_cons (p := (·.length ≤ w'))).mpr (i2 t ts ht).2 q hq
      · obtain ⟨j1, j2⟩ := h5 W hW hs
        rw [List.flatMap_cons, i3 W hW' hW' j1, ← tokens_append_of_cutAtBlank _ _ j2, h1]

end Shelx.C06
