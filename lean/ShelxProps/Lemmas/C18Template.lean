/-
  C18 — `Template.substitute` over an arbitrary template and dictionary: when every placeholder is a key of the
  dictionary or one of the text parts, nothing raises, and the value behind a data name is the dictionary's under the
  placeholder the template puts there.
-/
import ShelxModel.C18

namespace Shelx.C18

theorem lookup_isSome {k : String} {d : List (String × Val)} : (lookup k d).isSome ↔ k ∈ d.map (·.1) := by
  induction d with
  | nil => simp [lookup]
  | cons e t ih =>
    obtain ⟨k', v⟩ := e
    rw [List.map_cons, List.mem_cons, ← ih, lookup]
    by_cases h : k' = k
    · simp [h]
    · simp [h, Ne.symm h]

theorem substitute_ok {tags : List String} {d : List (String × Val)} (h : ∀ t ∈ tags, t ∈ d.map (·.1) ∨ t ∈ textKeys) :
    substitute tags d = pure () := by
  rw [substitute, List.forM_eq_forM]
  induction tags with
  | nil => rfl
  | cons t ts ih =>
    rw [List.forall_mem_cons] at h
    rw [List.forM_cons, if_pos (h.1.imp_left lookup_isSome.2)]
    exact ih h.2

/-- the placeholder behind a data name in the template's `_name ${placeholder}` lines (text parts aside) -/
def placeholder (pairs : List (String × String × Bool)) (name : String) : Option String :=
  (pairs.find? fun p => p.1 = name ∧ p.2.1 ∉ textKeys).map (·.2.1)

theorem cifItemsOf_lookup {pairs : List (String × String × Bool)} {d : List (String × Val)}
    (h : ∀ p ∈ pairs, p.2.1 ∈ d.map (·.1) ∨ p.2.1 ∈ textKeys) :
    ∃ l, cifItemsOf pairs d = .ok l ∧ ∀ name, lookup name l = (placeholder pairs name).bind (lookup · d) := by
  unfold cifItemsOf
  induction pairs with
  | nil => exact ⟨[], rfl, fun _ => rfl⟩
  | cons p ps ih =>
    rw [List.forall_mem_cons] at h
    obtain ⟨l, hl, hlook⟩ := ih h.2
    rw [List.filterMapM_cons, hl]
    by_cases ht : p.2.1 ∈ textKeys
    · refine ⟨l, by simp [ht], fun name => ?_⟩
      simp [hlook, placeholder, ht]
    · obtain ⟨v, hv⟩ := Option.isSome_iff_exists.1 (lookup_isSome.2 (h.1.resolve_right ht))
      refine ⟨(p.1, v) :: l, by simp [ht, hv]; rfl, fun name => ?_⟩
      by_cases hn : p.1 = name <;> simp [lookup, hlook, placeholder, ht, hn, hv]

end Shelx.C18
