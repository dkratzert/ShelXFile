/-
  C01, text layer: what the two splitters of the specification (`splitGo`/`splitWs` at blanks, `splitComma` at commas)
  do with a separator-free prefix, with a run of blanks, with a line of padded fields (`split_chunks`) and with a
  joined text. No Mathlib.
-/
import ShelxModel.C01

namespace Shelx.C01

/-- a scanner that pushes every character other than the separator `d` onto the pending token `cur` (`splitGo` with
    `' '`, `splitComma` with `','`) takes a `d`-free prefix `t` in whole: reversed, on top of `cur` -/
theorem scan_prefix {β} (f : List Char → List Char → β) (d : Char)
    (hf : ∀ c cs cur, c ≠ d → f (c :: cs) cur = f cs (c :: cur)) (t rest cur : List Char) (h : d ∉ t) :
    f (t ++ rest) cur = f rest (t.reverse ++ cur) := by
  induction t generalizing cur with
  | nil => rfl
  | cons c t ih =>
    rw [List.cons_append, hf c _ _ (fun e => h (e ▸ List.mem_cons_self)), ih _ (fun e => h (List.mem_cons_of_mem _ e)),
      List.reverse_cons, List.append_assoc, List.singleton_append]

theorem splitGo_tok (t rest cur : List Char) (h : ' ' ∉ t) :
    splitGo (t ++ rest) cur = splitGo rest (t.reverse ++ cur) :=
  scan_prefix splitGo ' ' (fun c cs cur hc => by rw [splitGo, if_neg hc]) t rest cur h

theorem splitComma_tok (t rest cur : List Char) (h : ',' ∉ t) :
    splitComma (t ++ rest) cur = splitComma rest (t.reverse ++ cur) :=
  scan_prefix splitComma ',' (fun c cs cur hc => by rw [splitComma, if_neg hc]) t rest cur h

theorem flush_reverse (t : List Char) (h : t ≠ []) : flush t.reverse = [t] := by
  cases ht : t.reverse with
  | nil => exact absurd (List.reverse_eq_nil_iff.mp ht) h
  | cons c cs => rw [flush, ← ht, List.reverse_reverse]

theorem splitGo_blanks (n : Nat) (rest cur : List Char) :
    splitGo (blanks (n + 1) ++ rest) cur = flush cur ++ splitGo rest [] := by
  induction n generalizing cur with
  | zero => simp [blanks, splitGo]
  | succ k ih =>
    rw [blanks, List.replicate_succ, List.cons_append, splitGo, if_pos rfl, ← blanks, ih]; rfl

/-- the tokens of a line of padded fields are the non-empty field texts, provided no two texts
    touch (`sep`; `cur` = the token pending when the line starts) -/
theorem split_chunks (cs : List Chunk) (cur : List Char) (hbf : ∀ c ∈ cs, ' ' ∉ c.t)
    (hs : sep (!cur.isEmpty) cs = true) :
    splitGo (renderChunks cs) cur = flush cur ++ toksOf cs := by
  induction cs generalizing cur with
  | nil => simp [renderChunks, toksOf, splitGo]
  | cons c cs ih =>
    -- the rest of the line after `n` blanks: a pending token stays pending only if `n = 0`
    have pad : ∀ n cur, sep (!cur.isEmpty && n == 0) cs = true →
        splitGo (blanks n ++ renderChunks cs) cur = flush cur ++ toksOf cs := by
      intro n cur h
      have ih := fun cur => ih cur fun c hc => hbf c (List.mem_cons_of_mem _ hc)
      cases n with
      | zero => exact ih cur (by simpa using h)
      | succ n => rw [splitGo_blanks, ih [] (by simpa using h)]; rfl
    have hct : ' ' ∉ c.t := hbf c List.mem_cons_self
    obtain ⟨l, t, r⟩ := c
    rw [renderChunks, Chunk.text, toksOf, List.append_assoc, List.append_assoc]
    rw [sep] at hs
    by_cases ht : t = []
    · simp only [ht, if_true, List.nil_append] at hs ⊢
      rw [← List.append_assoc, blanks, blanks, List.replicate_append_replicate, ← blanks]
      exact pad (l + r) cur hs
    · simp only [ht, if_false, Bool.and_eq_true] at hs ⊢
      have tail : splitGo (t ++ (blanks r ++ renderChunks cs)) [] = t :: toksOf cs := by
        rw [splitGo_tok _ _ _ hct, List.append_nil, pad r _ (by simpa [List.isEmpty_eq_false_iff.mpr ht] using hs.2),
          flush_reverse _ ht]
        rfl
      -- before the text, a pending token needs a blank
      cases l with
      | zero =>
        have : cur = [] := by simpa using hs.1
        rw [this, blanks, List.replicate_zero, List.nil_append, tail]; rfl
      | succ l => rw [splitGo_blanks, tail]

theorem splitWs_tok (t : Tok) (hne : t ≠ []) (hbf : ' ' ∉ t) (n : Nat) (rest : List Char) :
    splitWs (t ++ (blanks (n + 1) ++ rest)) = t :: splitWs rest := by
  rw [splitWs, splitGo_tok _ _ _ hbf, splitGo_blanks, List.append_nil, flush_reverse _ hne]; rfl

theorem joinWith_cons_cons (s : List Char) (t u : Tok) (us : List Tok) :
    joinWith s (t :: u :: us) = t ++ (s ++ joinWith s (u :: us)) := by
  simp [joinWith]

theorem joinBl_eq (k : Nat) (ts : List Tok) : joinBl k ts = joinWith (blanks (k + 1)) ts := by
  cases ts <;> rfl

theorem splitComma_join (t : Tok) (ts : List Tok) (h : ∀ c ∈ t :: ts, ',' ∉ c) :
    splitComma (joinWith [','] (t :: ts)) [] = t :: ts := by
  induction ts generalizing t with
  | nil => simpa [joinWith, splitComma] using splitComma_tok t [] [] (h t List.mem_cons_self)
  | cons u us ih =>
    rw [joinWith_cons_cons, splitComma_tok _ _ _ (h t List.mem_cons_self), List.append_nil, List.singleton_append,
      splitComma, if_pos rfl, List.reverse_reverse, ih u fun c hc => h c (List.mem_cons_of_mem _ hc)]

theorem filter_joinWith (p : Char → Bool) (s : List Char) (ts : List Tok) :
    (joinWith s ts).filter p = joinWith (s.filter p) (ts.map (List.filter p)) := by
  cases ts with
  | nil => rfl
  | cons t ts => simp [joinWith, List.filter_flatten, List.map_map, Function.comp_def]

theorem filter_blankfree (t : Tok) (h : ' ' ∉ t) : t.filter (· ≠ ' ') = t :=
  List.filter_eq_self.mpr fun c hc => by simpa using fun e : c = ' ' => h (e ▸ hc)

end Shelx.C01
