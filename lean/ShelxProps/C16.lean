/-
  C16 — property theorems (model and spec: ShelxModel/C16.lean; regenerated table: ShelxModel/Extracted/C16Slots.lean).
  A constructor's regenerated statement list, run on any parameter list of a legal form, leaves each attribute at the
  value its syntax entry puts at the parameter's position or, omitted, at its documented default or `None`
  (`run_get` → `run_safe` → `accepts_winner` → `table_attr_spec`); `slots_match_syntax` is the only sweep over the
  table.
-/
import ShelxModel.C16
import ShelxModel.Extracted.C16Slots
import Mathlib.Data.Rat.Defs

namespace Shelx.C16
open Shelx.Extracted

def classOfName (n : String) : Option CardSlots := slotTable.find? (fun c => c.name == n)

theorem lookup_cons {β : Type} (a k : String) (v : β) (l : List (String × β)) :
    (((a, v) :: l).find? (·.1 == k)).map (·.2) = if a = k then some v else (l.find? (·.1 == k)).map (·.2) := by
  rw [List.find?_cons]
  split <;> simp_all

theorem get_set (o : Obj) (a b : String) (v : Val) :
    (Obj.set o a v).get b = if a = b then some v else o.get b := lookup_cons a b v o

/-- the value statement `s` assigns in `e` (source read, then converted); `none` where the read raises, which `hsafe`
    below rules out for every statement whose guard passes -/
def slotVal (e : Env) (s : Slot) : Option Val :=
  match readSrc e s.src with
  | .ok v => some (s.conv.app v)
  | .error _ => none

theorem stepSlot_get (e : Env) (o : Obj) (s : Slot) (hsafe : s.guard.passes e = true → ∃ v, readSrc e s.src = .ok v) :
    ∃ o', stepSlot e o s = .ok o' ∧
      ∀ a, o'.get a = if (s.attr == a && s.guard.passes e) = true then slotVal e s else o.get a := by
  unfold stepSlot
  cases hp : s.guard.passes e with
  | false => exact ⟨o, rfl, fun a => by simp⟩
  | true =>
    obtain ⟨v, hv⟩ := hsafe hp
    refine ⟨o.set s.attr (s.conv.app v), by simp [hv], fun a => ?_⟩
    simp [get_set, slotVal, hv]

/-- the constructor's statement list runs through, and each attribute is what the LAST passing assignment
    to it wrote -/
theorem run_get (e : Env) (l : List Slot) (o : Obj)
    (hsafe : ∀ s ∈ l, s.guard.passes e = true → ∃ v, readSrc e s.src = .ok v) :
    ∃ o', run e l o = .ok o' ∧ ∀ a, o'.get a =
      match l.reverse.find? (fun s => s.attr == a && s.guard.passes e) with
      | some s => slotVal e s
      | none => o.get a := by
  induction l generalizing o with
  | nil => exact ⟨o, rfl, fun a => by simp⟩
  | cons s t ih =>
    obtain ⟨o₁, hstep, hget₁⟩ := stepSlot_get e o s (hsafe s List.mem_cons_self)
    obtain ⟨o', hrun, hget⟩ := ih o₁ fun s' hs' => hsafe s' (List.mem_cons_of_mem _ hs')
    refine ⟨o', by simp [run, hstep, hrun], fun a => ?_⟩
    rw [hget a, hget₁ a, List.reverse_cons, List.find?_append]
    cases t.reverse.find? (fun s => s.attr == a && s.guard.passes e) with
    | some s' => rfl
    | none =>
      simp only [Option.none_or, List.find?_cons, List.find?_nil]
      split <;> simp [*]

/-- the DEFS object exists exactly when a DEFS line `qs` preceded, and exposes the five effective values -/
def DefsOK (dobj : Option Obj) (qs : Option (List Rat)) : Prop :=
  dobj.isSome = qs.isSome ∧ ∀ d, dobj = some d → ∀ f ∈ defsFields, d.get f = some (.num (effDefs qs f))

theorem passes_eq (e : Env) (g : Guard) : g.passes e = g.passesN e.ps.length e.defs.isSome := by
  cases g <;> rfl

theorem pyInt_of_isInt (r : Rat) (h : isInt r = true) : ((pyInt r : Int) : Rat) = r := by
  have hd : r.den = 1 := by simpa [isInt] using h
  simpa [pyInt, hd] using Rat.coe_int_num_of_den_eq_one hd

theorem conv_nums (cv : Conv) (l : List Rat) : cv.app (.nums l) = .nums l := by
  cases cv <;> rfl

theorem conv_num_of_isInt (cv : Conv) (r : Rat) (h : isInt r = true) : cv.app (.num r) = .num r := by
  cases cv
  · rfl
  · simp [Conv.app, pyInt_of_isInt r h]

/-- `readSrc` without its error cases, the DEFS object replaced by the line `qs` it stands for (`readSrc_safe`).
    Sound only under `Src.safeN`: `ps[j]?.getD 0` is `p[j]` for `j < ps.length` and means nothing beyond. -/
def srcVal (ps : List Rat) (qs : Option (List Rat)) : Src → Val
  | .idx j => .num (ps[j]?.getD 0)
  | .slice a b => .nums (pySlice ps a b)
  | .const v => v
  | .defs f m => .num (effDefs qs f * m)

section
variable {e : Env} {qs : Option (List Rat)} (hdefs : DefsOK e.defs qs)
include hdefs

theorem readSrc_safe {src : Src} (hs : src.safeN e.ps.length e.defs.isSome = true) :
    readSrc e src = .ok (srcVal e.ps qs src) := by
  cases src with
  | idx j =>
    have hj : j < e.ps.length := by simpa [Src.safeN] using hs
    simp [readSrc, srcVal, List.getElem?_eq_getElem hj]
  | slice a b => rfl
  | const v => rfl
  | defs f m =>
    simp only [Src.safeN, Bool.and_eq_true, List.contains_iff_mem] at hs
    obtain ⟨d, hdd⟩ := Option.isSome_iff_exists.mp hs.1
    simp [readSrc, srcVal, hdd, hdefs.2 d hdd f hs.2]

theorem run_safe (l : List Slot)
    (hsafe : ∀ s ∈ l, s.guard.passesN e.ps.length qs.isSome = true → s.src.safeN e.ps.length qs.isSome = true) :
    ∃ o, run e l [] = .ok o ∧
      ∀ a, o.get a = (winner l e.ps.length qs.isSome a).map fun s => s.conv.app (srcVal e.ps qs s.src) := by
  rw [← hdefs.1] at hsafe ⊢
  obtain ⟨o, hrun, hget⟩ := run_get e l [] fun s hs hp => ⟨_, readSrc_safe hdefs (hsafe s hs (passes_eq e _ ▸ hp))⟩
  refine ⟨o, hrun, fun a => ?_⟩
  have hw : l.reverse.find? (fun s => s.attr == a && s.guard.passes e) = winner l e.ps.length e.defs.isSome a := by
    simp only [winner, passes_eq]
  rw [hget a, hw]
  cases hf : winner l e.ps.length e.defs.isSome a with
  | none => rfl
  | some s =>
    unfold winner at hf
    have hp := List.find?_some hf
    have hs := hsafe s (List.mem_reverse.mp (List.mem_of_find?_eq_some hf)) ((Bool.and_eq_true _ _).mp hp).2
    show slotVal e s = _
    rw [slotVal, readSrc_safe hdefs hs]
    rfl

end

theorem positionsFrom_mem {k : Nat} {l : List Param} {pk : Param × Nat} (h : pk ∈ positionsFrom k l) : pk.1 ∈ l := by
  induction l generalizing k with
  | nil => cases h
  | cons p t ih =>
    rw [positionsFrom, List.mem_cons] at h
    exact List.mem_cons.mpr (h.imp (fun e => by rw [e]) ih)

theorem conforms_unpack {rules : List DefsRule} {c : CardSlots} {sp : Syntax} (h : conforms rules c sp = true)
    {n : Nat} (hn : n ∈ formLens sp) (hd : Bool) :
    (∀ pk ∈ sp.positions, pk.1.width ≠ 0) ∧
    (∀ s ∈ stmtsOf rules c, s.guard.passesN n hd = true → s.src.safeN n hd = true) ∧
    (∀ pk ∈ sp.positions, winnerOK pk.1 pk.2 n hd (winner (stmtsOf rules c) n hd pk.1.attr) = true) := by
  simp only [conforms, Syntax.finite, Bool.and_eq_true, List.all_eq_true] at h
  obtain ⟨⟨hfin, _⟩, hall⟩ := h
  obtain ⟨hsafe, hwin⟩ := hall n hn hd (by cases hd <;> simp)
  exact ⟨fun pk hpk => Nat.pos_iff_ne_zero.mp (of_decide_eq_true (hfin _ (positionsFrom_mem hpk))),
    fun s hs hp => by simpa [hp] using hsafe s hs, hwin⟩

section
variable {eff : String → Rat} {P : Param} {pos : Nat} {ps : List Rat}

theorem specVal_given1 (h1 : P.width = 1) (hle : pos < ps.length) : specVal eff P pos ps = .given (.num ps[pos]) := by
  have : pos + 1 ≤ ps.length := hle
  simp [specVal, h1, this, List.getElem?_eq_getElem hle]

theorem specVal_givenW (h0 : P.width ≠ 0) (h1 : P.width ≠ 1) (hle : pos + P.width ≤ ps.length) :
    specVal eff P pos ps = .given (.nums ((ps.drop pos).take P.width)) := by
  simp [specVal, h0, h1, hle]

theorem specVal_omitted (h0 : P.width ≠ 0) (hle : ¬ pos + P.width ≤ ps.length) :
    specVal eff P pos ps = .omitted (dfltVal eff P.dflt) := by
  simp [specVal, h0, hle]

end

section
variable {ps : List Rat} {qs : Option (List Rat)} {P : Param}

theorem accepts_omitted {s : Slot} (hdf : defaultOK P qs.isSome s = true) :
    accepts (some (srcVal ps qs s.src)) (.omitted (dfltVal (effDefs qs) P.dflt)) = true := by
  unfold defaultOK at hdf
  -- row by row: what the deciding statement assigns against the documented default
  split at hdf
  next v d hs hd =>          -- a constant against `[d]`: it is d or `None`
    simpa [accepts, srcVal, dfltVal, hs, hd] using hdf
  next v hs hd =>            -- a constant against `[#]`: it is `None`
    simpa [accepts, srcVal, dfltVal, hs, hd] using hdf
  next v f m hs hd =>        -- a constant against a default that depends on DEFS
    obtain ⟨hq, hv⟩ : qs = none ∧ v = .num (defsDoc f * m) := by simpa using hdf
    simp [accepts, srcVal, dfltVal, effDefs, hs, hd, hq, hv]
  next f' m' f m hs hd =>    -- `shx.defs.f' * m'` against a default that depends on DEFS
    obtain ⟨⟨_, hf⟩, hm⟩ : (qs.isSome = true ∧ f' = f) ∧ m' = m := by simpa using hdf
    simp [accepts, srcVal, dfltVal, hs, hd, hf, hm]
  · cases hdf

theorem accepts_winner {pos : Nat} {w : Option Slot} (hwidth : P.width ≠ 0)
    (hint : (P.kind != .int || ((ps.drop pos).take (max P.width 1)).all isInt) = true)
    (hw : winnerOK P pos ps.length qs.isSome w = true) :
    accepts (w.map fun s => s.conv.app (srcVal ps qs s.src)) (specVal (effDefs qs) P pos ps) = true := by
  rcases w with _ | s
  · cases hw
  show accepts (some (s.conv.app (srcVal ps qs s.src))) _ = true
  unfold winnerOK at hw
  by_cases hgiven : pos + P.width ≤ ps.length
  · simp only [hgiven, if_true, Bool.and_eq_true] at hw
    obtain ⟨hsrc, hconv⟩ := hw
    by_cases h1 : P.width = 1
    · have hlt : pos < ps.length := by omega
      have hsrc : s.src = .idx pos := by simpa [h1] using hsrc
      -- `int()` changes nothing on an integer
      have hcv : s.conv.app (.num ps[pos]) = .num ps[pos] := by
        rcases (Bool.or_eq_true _ _).mp hconv with h | h
        · simp [show s.conv = .id by simpa using h, Conv.app]
        · have hk : P.kind = .int := by simpa using h
          apply conv_num_of_isInt
          simpa [hk, h1, List.take_one, List.head?_drop, List.getElem?_eq_getElem hlt] using hint
      -- the object holds `conv (p[pos])`, the line says `p[pos]`: equal by `hcv`
      simp [specVal_given1 h1 hlt, accepts, hsrc, srcVal, List.getElem?_eq_getElem hlt, hcv]
    · -- a group: the slice `p[pos:pos+w]`, or `p[pos:]` in the form that ends with the group
      have h1' : (P.width == 1) = false := by simpa using h1
      simp only [h1', Bool.false_eq_true, if_false, Bool.or_eq_true, Bool.and_eq_true, beq_iff_eq] at hsrc
      rw [specVal_givenW hwidth h1 hgiven]
      rcases hsrc with h | ⟨h, hlen⟩
      · simp [accepts, h, srcVal, conv_nums, pySlice]
      · simp [accepts, h, srcVal, conv_nums, pySlice, List.take_of_length_le, hlen]
  · simp only [hgiven, if_false, Bool.and_eq_true, beq_iff_eq] at hw
    rw [specVal_omitted hwidth hgiven, hw.2]
    exact accepts_omitted hw.1

end

/-- for a class whose (regenerated) slot table conforms to a syntax entry, for ALL parameter lists
    `ps` of a legal form, with or without a preceding DEFS: the constructor succeeds (no IndexError) and every
    parameter's attribute is the value written at the parameter's position, or — omitted — its documented default
    (for restraints the DEFS-dependent one) or `None`.
    Hypotheses: `intsOK` — integer-kind parameters (mn, N, npeaks …) are integers (Python's `int()` truncates
    anything else: `AFIX 43.7` gives mn = 43); `hi2` — classes parsed with `intnums=True` see only integers (`int('1.5')`
    raises ValueError). -/
theorem table_attr_spec (rules : List DefsRule) (c : CardSlots) (sp : Syntax)
    (hc : conforms rules c sp = true) (ps : List Rat) (qs : Option (List Rat)) (dobj : Option Obj)
    (hdefs : DefsOK dobj qs) (hn : ps.length ∈ formLens sp) (hi : intsOK sp ps = true)
    (hi2 : c.intnums = true → ps.all isInt = true) :
    ∃ o, fill rules c ⟨ps, dobj⟩ = .ok o ∧
      ∀ pk ∈ sp.positions, accepts (o.get pk.1.attr) (specVal (effDefs qs) pk.1 pk.2 ps) = true := by
  obtain ⟨hwidth, hsafe, hwin⟩ := conforms_unpack hc hn qs.isSome
  obtain ⟨o, hrun, hget⟩ := run_safe (e := ⟨ps, dobj⟩) hdefs (stmtsOf rules c) hsafe
  have hints : (c.intnums && !(ps.all isInt)) = false := by
    cases hci : c.intnums <;> simp [hi2, hci]
  refine ⟨o, by simpa [fill, hints] using hrun, fun pk hpk => ?_⟩
  rw [hget]
  exact accepts_winner (hwidth pk hpk) (List.all_eq_true.mp hi pk hpk) (hwin pk hpk)

/-- keywords whose class must be table shaped; a class the translator no longer finds table shaped (or a moved index,
    a changed default, a dropped guard) makes `slots_match_syntax` fail — the scope cannot shrink silently -/
def tableKws : List String :=
  ["ABIN", "AFIX", "BLOC", "CELL", "ZERR", "FMAP", "GRID", "HKLF", "MERG", "MORE", "MOVE", "MPLA", "PLAN", "PRIG", "SHEL",
   "SIZE", "SPEC", "STIR", "TWST", "WGHT", "WIGL", "WPDB", "XNPD", "DAMP", "SWAT",
   "DEFS", "DFIX", "DANG", "SADI", "SAME", "FLAT", "CHIV", "DELU", "SIMU", "RIGU", "ISOR", "NCSY", "BUMP", "EADP", "EXYZ", "BOND"]

def tableOK (kw : String) : Bool :=
  match syntaxOf kw with
  | none => false
  | some sp =>
    match slotTable.find? (fun c => c.name == sp.cls) with
    | none => false
    | some c => conforms defsTable c sp

/-- every table-shaped class of the CURRENT cards.py (the regenerated `slotTable`, `defsTable`)
    conforms to its syntax entry -/
theorem slots_match_syntax : ∀ kw ∈ tableKws, tableOK kw = true := by decide +kernel

/-- the property for the table-shaped instructions, all parameter lists, with/without DEFS -/
theorem instruction_attrs (kw : String) (hk : kw ∈ tableKws) :
    ∃ sp c, syntaxOf kw = some sp ∧ c ∈ slotTable ∧ c.name = sp.cls ∧
      ∀ (ps : List Rat) (qs : Option (List Rat)) (dobj : Option Obj), DefsOK dobj qs → ps.length ∈ formLens sp →
        intsOK sp ps = true → (c.intnums = true → ps.all isInt = true) →
        ∃ o, fill defsTable c ⟨ps, dobj⟩ = .ok o ∧
          ∀ pk ∈ sp.positions, accepts (o.get pk.1.attr) (specVal (effDefs qs) pk.1 pk.2 ps) = true := by
  have h := slots_match_syntax kw hk
  unfold tableOK at h
  split at h
  · cases h
  next sp hsp =>
    split at h
    · cases h
    next c hc =>
      exact ⟨sp, c, hsp, List.mem_of_find?_eq_some hc, by simpa using List.find?_some hc,
        table_attr_spec defsTable c sp h⟩

-- `fill` computing on two rows of the regenerated table: tests of the model, not uses of `instruction_attrs`.
-- ZERR: esd(a) is the second value
example : ((classOfName "ZERR").map fun c => (fill defsTable c ⟨[4, 0.001, 0.002, 0.003, 0.01, 0.02, 0.03], none⟩).toOption.bind
    (fun o => o.get "esd_a")) = some (some (.num 0.001)) := by decide +kernel

-- DANG after `DEFS 0.05`: s = 2·sd. The DEFS object is cut down to the one field DANG reads, so `DefsOK`, which asks
-- for all five, does not hold of it
example : ((classOfName "DANG").map fun c => (fill defsTable c ⟨[1.5], some [("sd", .num 0.05)]⟩).toOption.bind
    (fun o => o.get "s")) = some (some (.num 0.1)) := by decide +kernel

/-- on a line written as the syntax says (numeric parameters, then atom names)
    `_parse_line` returns exactly the numbers and exactly the names, both in file order -/
theorem parseLine_numbers_then_names (nums : List Rat) (names : List String) :
    parseLine (nums.map Tok.num ++ names.map Tok.word) = (nums, names) := by
  simp [parseLine, List.filterMap_map, Function.comp_def]

example : parseLine [.num 1.5, .num 0.03, .word "C1", .word "C2"] = ([1.5, 0.03], ["C1", "C2"]) := by decide +kernel

/-- every token that is a number in SHELXL's free format (sign, leading '.', trailing '.',
    exponent notation …) is classified as a numeric parameter by `Command._parse_line`.
    (The value it denotes is computed by CPython's `float()`, trusted base; `Restraint._parse_line` classifies with
    `my_isnumeric`, a `float()` try that refuses nan/inf — both are compared with the spec by the harness on every
    spelling class, not proved.) -/
theorem free_number_is_numeric (x : List Char) (h : isFreeNumber x = true) : cmdIsNum x = true := by
  cases x with
  | nil => simp [isFreeNumber] at h
  | cons c t =>
    by_cases hs : (c == '+' || c == '-') = true
    · rcases (Bool.or_eq_true _ _).mp hs with h1 | h1 <;> simp [cmdIsNum, h1]
    · simp only [isFreeNumber, hs, Bool.false_eq_true, if_false] at h
      by_cases hd : c.isDigit = true
      · simp [cmdIsNum, hd]
      · simp only [unsignedOK, hd, Bool.false_eq_true, if_false, Bool.and_eq_true] at h
        obtain ⟨hdot, hrest⟩ := h
        cases t with
        | nil => simp at hrest
        | cons d r =>
          simp only [Bool.and_eq_true] at hrest
          simp [cmdIsNum, hdot, hrest.1]

example : isFreeNumber "1.5E-2".toList = true ∧ isFreeNumber ".015".toList = true ∧ isFreeNumber "+.5".toList = true ∧
    isFreeNumber "4.".toList = true ∧ isFreeNumber "-1.2e+1".toList = true ∧ isFreeNumber "007".toList = true := by decide +kernel
example : isFreeNumber "C1".toList = false ∧ isFreeNumber "$1".toList = false ∧ isFreeNumber "1.5E".toList = false ∧
    isFreeNumber ".".toList = false ∧ cmdIsNum "C1".toList = false ∧ cmdIsNum ">".toList = false := by decide +kernel

theorem nameOf_append_underscore (a s : List Char) : nameOf (a ++ '_' :: s) = nameOf a := by
  unfold nameOf
  induction a with
  | nil => rfl
  | cons c t ih => simp only [List.cons_append, List.map_cons, List.takeWhile_cons, ih]

/-- the name a restraint is looked up under (DEFS rules) does not depend on a residue suffix -/
theorem nameOf_suffix_free (kw sfx : List Char) (h : ∀ c ∈ kw, c.toUpper ≠ '_') :
    nameOf (kw ++ '_' :: sfx) = kw.map Char.toUpper ∧ nameOf kw = kw.map Char.toUpper := by
  have h2 : nameOf kw = kw.map Char.toUpper := by
    unfold nameOf
    induction kw with
    | nil => rfl
    | cons a t ih =>
      have ha : (a.toUpper != '_') = true := by simpa using h a (by simp)
      rw [List.map_cons, List.takeWhile_cons, ha, if_pos rfl, ih fun c hc => h c (List.mem_cons_of_mem _ hc)]
  exact ⟨(nameOf_append_underscore kw sfx).trans h2, h2⟩

def restraintKws : List String :=
  ["DFIX", "DANG", "SADI", "SAME", "FLAT", "CHIV", "DELU", "SIMU", "RIGU", "ISOR", "NCSY", "BUMP", "DEFS", "EADP", "EXYZ"]

/-- restraint keywords in the case variants SHELXL accepts: the looked-up name is the upper-case keyword -/
theorem restraint_names_case_and_suffix : ∀ kw ∈ restraintKws, ∀ sfx ∈ ["", "_2", "_CCF3", "_ccf3", "_*"],
    nameOf (kw ++ sfx).toList = kw.toList ∧ nameOf (kw.toLower ++ sfx).toList = kw.toList ∧
    nameOf (kw.capitalize ++ sfx).toList = kw.toList := by
  intro kw hkw sfx hsfx
  have hs : ∀ sfx ∈ ["", "_2", "_CCF3", "_ccf3", "_*"], sfx.toList = [] ∨ sfx.toList = '_' :: sfx.toList.tail := by
    decide +kernel
  have hk : ∀ kw ∈ restraintKws, nameOf kw.toList = kw.toList ∧ nameOf (kw.toList.map Char.toLower) = kw.toList ∧
      kw.capitalize = kw := by decide +kernel
  have hw : ∀ w : String, nameOf (w ++ sfx).toList = nameOf w.toList := by
    intro w
    rw [String.toList_append]
    rcases hs sfx hsfx with h | h
    · rw [h, List.append_nil]
    · rw [h, nameOf_append_underscore]
  obtain ⟨h1, h2, h3⟩ := hk kw hkw
  rw [hw, hw, hw, h3, String.toLower, String.toList_map]
  exact ⟨h1, h2, h1⟩

theorem dictGet_cons (kv : String × List Nat) (d : List (String × List Nat)) (k : String) :
    dictGet (kv :: d) k = if kv.1 = k then some kv.2 else dictGet d k := lookup_cons kv.1 k kv.2 d

theorem dictGet_dictAppend (d : List (String × List Nat)) (k k' : String) (v : Nat) :
    dictGet (dictAppend d k v) k' = if k = k' then some ((dictGet d k).getD [] ++ [v]) else dictGet d k' := by
  induction d with
  | nil => simp [dictAppend, dictGet]
  | cons hd tl ih =>
    rw [dictAppend]
    by_cases h0 : hd.1 = k
    · subst h0
      by_cases h : hd.1 = k' <;> simp [dictGet_cons, h]
    · simp only [beq_iff_eq, h0, if_false, dictGet_cons, ih]
      by_cases h : hd.1 = k'
      · simp [h, show k ≠ k' from fun e => h0 (h.trans e.symm)]
      · simp [h]

theorem dictGet_foldl_dictAppend (l : List (String × Nat)) (d : List (String × List Nat)) (k : String) :
    dictGet (l.foldl (fun d r => dictAppend d r.1 r.2) d) k =
      if (l.filter (·.1 == k)).map (·.2) = [] then dictGet d k
      else some ((dictGet d k).getD [] ++ (l.filter (·.1 == k)).map (·.2)) := by
  induction l generalizing d with
  | nil => rfl
  | cons r t ih =>
    rw [List.foldl_cons, ih, dictGet_dictAppend]
    by_cases h : r.1 = k
    · rw [List.filter_cons_of_pos (by simpa using h), List.map_cons]
      subst h
      generalize (t.filter (·.1 == r.1)).map (·.2) = w
      cases w <;> simp
    · rw [List.filter_cons_of_neg (by simpa using h)]
      simp only [if_neg h]

theorem classDict_eq (res : List (String × Nat)) :
    classDict res = (res.filter (·.1 != "")).foldl (fun d r => dictAppend d r.1 r.2) [] := by
  rw [List.foldl_filter, classDict]
  congr
  funext d r
  cases h : r.1 == "" <;> simp [bne, h]

theorem dedup_nodup (l : List Nat) (h : l.Nodup) : dedup l = l := by
  induction l with
  | nil => rfl
  | cons a t ih =>
    have hn := List.nodup_cons.mp h
    rw [dedup, ih hn.2, List.filter_eq_self.mpr]
    intro b hb
    simpa using fun e : b = a => hn.1 (e ▸ hb)

/-- the residue class and the resolved residue numbers a restraint reports are those its codeword
    suffix addresses, for ALL lists of RESI instructions (class, number) and every suffix kind.
    Hypotheses: residue numbers are pairwise different (`_*` goes through a dict keyed by number); an addressed class
    is not empty-named and has at least one residue (for an unknown class the code reports residue 0). -/
theorem residue_spec (res : List (String × Nat)) (sfx : Suffix) (hnd : (res.map (·.2)).Nodup)
    (hcls : ∀ s, sfx = .cls s → s ≠ "" ∧ ∃ r ∈ res, r.1 = s) :
    modelResidue res sfx = specResidue res sfx := by
  cases sfx with
  | none =>
    have : (res.filter (·.1 != "")).filter (·.1 == "") = [] := by simp [List.filter_filter]
    rw [modelResidue, specResidue, classDict_eq, dictGet_foldl_dictAppend, this]
    rfl
  | num n => rfl
  | star => simp [modelResidue, specResidue, dedup_nodup _ hnd]
  | cls s =>
    obtain ⟨hs, r, hr, hrs⟩ := hcls s rfl
    have : (res.filter (·.1 != "")).filter (·.1 == s) = res.filter (·.1 == s) := by
      rw [List.filter_filter]
      exact List.filter_congr fun a _ => by by_cases h : a.1 = s <;> simp [h, hs]
    have hmem : r ∈ res.filter (·.1 == s) := List.mem_filter.mpr ⟨hr, by simpa using hrs⟩
    have hne : (res.filter (·.1 == s)).map (·.2) ≠ [] :=
      fun he => List.ne_nil_of_mem hmem (List.map_eq_nil_iff.mp he)
    rw [modelResidue, specResidue, classDict_eq, dictGet_foldl_dictAppend, this, if_neg hne]
    simp [dictGet]

example : modelResidue [("CCF3", 1), ("TOL", 4), ("CCF3", 2), ("", 7)] (.cls "CCF3") = ("CCF3", [1, 2]) := by decide +kernel

/-- the round trip of `ls_setter_roundtrip` for any object `l`, built by `lsInit` or not: each of the four cases of `lsTokens`
    (nrf, nextra given or not) evaluates -/
theorem ls_set_number (l : LS) (n : Int) :
    lsDenotes (lsTokens { l with cycles := n }) = some (n, l.nrf.getD 0, l.nextra.getD 0) ∧
    ∃ l', lsSetNumber l n = .ok l' ∧ l'.denotes = (n, l.nrf.getD 0, l.nextra.getD 0) ∧ l'.cgls = l.cgls := by
  obtain ⟨cg, c, nrf, nextra⟩ := l
  cases nrf <;> cases nextra <;> exact ⟨rfl, _, rfl, rfl, rfl⟩

/-- `cycles.number = n` on the object `l` of an L.S./CGLS line: the printed text denotes (n, nrf, nextra) with `l`'s nrf
    and nextra (0 where not given), and its re-parse is an object that denotes the same and keeps the keyword -/
theorem ls_setter_roundtrip (cgls : Bool) (ps : List Int) (l : LS) (n : Int) (h : lsInit cgls ps = .ok l)
    (hlen : ps.length ≤ 3) :
    lsDenotes (lsTokens { l with cycles := n }) = some (n, l.nrf.getD 0, l.nextra.getD 0) ∧
    ∃ l', lsSetNumber l n = .ok l' ∧ l'.denotes = (n, l.nrf.getD 0, l.nextra.getD 0) ∧ l'.cgls = cgls := by
  have hc : l.cgls = cgls := by
    cases ps with
    | nil => cases h
    | cons c t => cases h; rfl
  exact hc ▸ ls_set_number l n

/-- the case the unrepaired printer lost: nrf = 0 in front of nextra -/
example : lsDenotes (lsTokens { (⟨false, 25, some 0, some 50⟩ : LS) with cycles := 4 }) = some (4, 0, 50) := by decide +kernel

/-- after `update_weight()` the printed WGHT line denotes exactly the suggested scheme
    (all six parameters, with the documented defaults for the ones the short form omits) -/
theorem wght_roundtrip (cur sug : W) : wghtDenotes (wghtTokens (updateWeight cur sug)) = some sug := by
  obtain ⟨a, b, c, d, e, f⟩ := sug
  unfold updateWeight wghtTokens
  by_cases h : (c, d, e, f) = ((0 : Rat), (0 : Rat), (0 : Rat), (0.33333 : Rat))
  · simp only [Prod.mk.injEq] at h
    obtain ⟨rfl, rfl, rfl, rfl⟩ := h
    simp [wghtDenotes]
  · simp [h, wghtDenotes]

example : wghtDenotes (wghtTokens (updateWeight ⟨0.05, 0.7, 0, 0, 0, 0.33333⟩ ⟨0.06, 0.8, 0, 0, 0.1, 0.23333⟩))
    = some ⟨0.06, 0.8, 0, 0, 0.1, 0.23333⟩ := by decide +kernel

/-- attribute and denoted value of each parameter of `kw` on the line `ps`. `effDefs none` is idle where this is used: the
    rows of PART, LATT, HTAB have no `.defs` default, the only place `dfltVal` consults it -/
def specOf (kw : String) (ps : List Rat) : List (String × SpecVal) :=
  match syntaxOf kw with
  | none => []
  | some sp => sp.positions.map fun pk => (pk.1.attr, specVal (effDefs none) pk.1 pk.2 ps)

/-- each listed attribute of `o` holds what `accepts` allows: the value given, or for an omitted parameter its default or `None` -/
def meets (o : Obj) (spec : List (String × SpecVal)) : Bool := spec.all fun av => accepts (o.get av.1) av.2

theorem meets_specOf {kw : String} {pos : List (Param × Nat)} (h : (syntaxOf kw).map (·.positions) = some pos)
    (o : Obj) (ps : List Rat) :
    meets o (specOf kw ps) = pos.all fun pk => accepts (o.get pk.1.attr) (specVal (effDefs none) pk.1 pk.2 ps) := by
  unfold specOf meets
  cases hs : syntaxOf kw <;> simp_all [List.all_map, Function.comp_def]

/-- Of the eleven `syntaxTable` rows outside `tableKws`, these three have a theorem (below), L.S./CGLS `ls_setter_roundtrip`;
    TWIN, SUMP (`twinModel`, `sumpModel`) and the width-0 rows BASF, UNIT, HFIX, ACTA are only sampled against the code. -/
theorem hand_positions :
    (syntaxOf "PART").map (·.positions) = some [(rq "n" "n" .int, 0), (df "sof" "sof" 11, 1)] ∧
    (syntaxOf "LATT").map (·.positions) = some [(df "N" "N" 1 .int, 0)] ∧
    (syntaxOf "HTAB").map (·.positions) = some [(df "dh" "dh" 2, 0)] := by decide +kernel

/-- `PART n` / `PART n sof`, n an integer -/
theorem part_attr_spec (n sof : Rat) (hn : isInt n = true) :
    meets (partModel [n]) (specOf "PART" [n]) = true ∧ meets (partModel [n, sof]) (specOf "PART" [n, sof]) = true := by
  have hn := pyInt_of_isInt n hn
  rw [meets_specOf hand_positions.1, meets_specOf hand_positions.1]
  constructor
  -- `show`: per parameter, what the object has and what the line denotes
  · show (accepts (some (.num (pyInt n))) (.given (.num n)) && (accepts (some (.num 11)) (.omitted (.num 11)) && true)) = true
    simp [accepts, hn]
  · show (accepts (some (.num (pyInt n))) (.given (.num n)) && (accepts (some (.num sof)) (.given (.num sof)) && true)) = true
    simp [accepts, hn]

/-- `LATT N` with N an integer, and the bare form -/
theorem latt_attr_spec (n : Rat) (hn : isInt n = true) :
    meets (lattModel [n]) (specOf "LATT" [n]) = true ∧ meets (lattModel []) (specOf "LATT" []) = true := by
  rw [meets_specOf hand_positions.2.1, meets_specOf hand_positions.2.1]
  refine ⟨?_, rfl⟩
  show (accepts (some (.num (pyInt n))) (.given (.num n)) && true) = true
  simp [accepts, pyInt_of_isInt n hn]

/-- `HTAB dh`, and the bare form, where the library reports `None` instead of the documented dh = 2 -/
theorem htab_attr_spec (dh : Rat) :
    meets (htabModel [dh]) (specOf "HTAB" [dh]) = true ∧ meets (htabModel []) (specOf "HTAB" []) = true := by
  rw [meets_specOf hand_positions.2.2, meets_specOf hand_positions.2.2]
  refine ⟨?_, rfl⟩
  show (accepts (some (.num dh)) (.given (.num dh)) && true) = true
  simp [accepts]

end Shelx.C16
