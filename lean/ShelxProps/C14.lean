/-
  C14 — property theorems (model: ShelxModel/C14.lean).            PARTIAL.

  Quantified over all number types `K` with `+ - *` and a decidable order (`Float` as the driver runs it, `Rat`, `ℝ`),
  all kernels (any `vector_length`, `floor`, thresholds), operator lists, asymmetric units, lists of needed operations /
  SDM items and both values of `with_qpeaks`.  No size bound: the proofs are fold invariants.

  NOT proved, checked by the harness only (brute-force oracle): that the SDM items / molecule numbers handed in are
  right (C13), i.e. that "bonded image" implies a covalent SDM item, and that every added fragment image is itself
  bonded to the asymmetric unit (open findings `C14|image|unbonded-fragment-image|merged-fragments` and
  `…|window-wider-than-bond`).
  Open findings, each with a proved witness input: PART < 0 coincidence (`¬ NoCoincidentStatement`); the `d_min + 0.2`
  window and the single wrapped translation per operator (an image is proved absent; that it is bonded is prose).
-/
import ShelxModel.C14
import ShelxModel.Extracted.C14Consts
import Mathlib.Data.Rat.Floor

namespace Shelx.C14

/-- `elab_as_elim`: `P` is found by abstracting `r` in the goal; plain unification reads a goal `∃ rest, …` as
    `P := Exists`. -/
@[elab_as_elim]
theorem foldlM_inv {α β : Type} {f : β → α → Option β} {P : β → Prop} {l : List α} {b r : β} (hb : P b)
    (hstep : ∀ s, P s → ∀ a ∈ l, ∀ s', f s a = some s' → P s') (h : l.foldlM f b = some r) : P r := by
  induction l generalizing b with
  | nil => cases h; exact hb
  | cons a t ih =>
    simp only [List.foldlM_cons, Option.bind_eq_bind, Option.bind_eq_some_iff] at h
    obtain ⟨s, hs, h⟩ := h
    exact ih (hstep b hb a List.mem_cons_self s hs) (fun s₁ h₁ x hx => hstep s₁ h₁ x (List.mem_cons_of_mem _ hx)) h

/-- once `a` is visited `Q` holds, and no step loses it -/
@[elab_as_elim]
theorem foldlM_visit {α β : Type} {f : β → α → Option β} {Q : β → Prop} {a : α} {l : List α} {b r : β} (ha : a ∈ l)
    (hQ : ∀ s s', f s a = some s' → Q s') (hmono : ∀ s, Q s → ∀ x s', f s x = some s' → Q s')
    (h : l.foldlM f b = some r) : Q r := by
  obtain ⟨l₁, l₂, rfl⟩ := List.append_of_mem ha
  simp only [List.foldlM_append, List.foldlM_cons, Option.bind_eq_bind, Option.bind_eq_some_iff] at h
  obtain ⟨s, -, s', hs', h⟩ := h
  exact foldlM_inv (hQ s s' hs') (fun s₁ h₁ x _ => hmono s₁ h₁ x) h

/-- `foldlM_visit` for a pure fold that builds a list -/
theorem mem_foldl {α β : Type} {f : List β → α → List β} (hf : ∀ s x, s ⊆ f s x) {x : α} {l : List α} (hx : x ∈ l)
    {b : β} (hb : ∀ s, b ∈ f s x) (s : List β) : b ∈ l.foldl f s := by
  obtain ⟨l₁, l₂, rfl⟩ := List.append_of_mem hx
  rw [List.foldl_append, List.foldl_cons]
  exact List.foldlRecOn l₂ f (hb _) fun s hs y _ => hf s y hs

theorem pyIndex_mem {α : Type} {l : List α} {i : Int} {x : α} (h : pyIndex l i = some x) : x ∈ l := by
  unfold pyIndex at h
  split at h
  · exact List.mem_of_getElem? h
  · split at h
    · exact List.mem_of_getElem? h
    · cases h

theorem pyIndex_natCast {α : Type} (l : List α) (n : Nat) : pyIndex l (n : Int) = l[n]? := by
  rw [pyIndex, if_pos (Int.natCast_nonneg n), Int.toNat_natCast]

theorem mkImage_isImage {K : Type} [Add K] [Mul K] {ker : Kernel K} {op : Op K} {h k l : Int} {o : Atom K}
    (hq : o.qpeak = false) : IsImageOf ker op h k l o (mkImage ker op h k l o) := by
  simp [IsImageOf, mkImage, hq]

theorem isThere_iff {K : Type} [Sub K] [LT K] [DecidableLT K] {ker : Kernel K} {shown : List (Atom K)} {na : Atom K} :
    isThere ker shown na = true ↔ 0 ≤ na.part ∧ ∃ b ∈ shown, Coincide ker b na := by
  simp only [isThere, Coincide, Bool.and_eq_true, decide_eq_true_eq, List.any_eq_true, ge_iff_le]

theorem imagePresent_mono {K : Type} [Sub K] [LT K] {ker : Kernel K} {s s' : List (Atom K)} {na : Atom K}
    (hs : s ⊆ s') : imagePresent ker s na → imagePresent ker s' na :=
  Or.imp (hs ·) fun ⟨hp, b, hb, hco⟩ => ⟨hp, b, hs hb, hco⟩

section
variable {K : Type} [Add K] [Sub K] [Mul K] [LT K] [LE K] [DecidableLT K] [DecidableLE K]

/-- the relation the append loop maintains between an earlier atom `a` and a later atom `b` -/
def Apart (ker : Kernel K) (a b : Atom K) : Prop := 0 ≤ b.part → ¬ Coincide ker a b

section
-- `packAtom` and `packer` compare with `<` only; `≤` enters with the window test of `candidate`
omit [LE K] [DecidableLE K]

theorem packAtom_cases {ker : Kernel K} {ops : List (Op K)} {withQ : Bool} {e : Need} {shown s' : List (Atom K)}
    {a : Atom K} (h : packAtom ker ops withQ e shown a = some s') :
    (a.qpeak = true ∨ a.mol ≠ e.group) ∧ s' = shown ∨
    ∃ op na, pyIndex ops (e.n - 1) = some op ∧ a.qpeak = false ∧ a.mol = e.group ∧
      na = mkImage ker op (e.h - 5) (e.k - 5) (e.l - 5) a ∧
      s' = if isThere ker shown na then shown else shown ++ [na] := by
  unfold packAtom at h
  cases hq : a.qpeak with
  | true =>
    rw [hq, if_pos rfl, ite_self, ite_self] at h
    exact Or.inl ⟨Or.inl rfl, (Option.some.inj h).symm⟩
  | false =>
    rw [hq, Bool.and_false, if_neg Bool.false_ne_true, if_neg Bool.false_ne_true] at h
    by_cases hmol : a.mol = e.group
    · rw [if_pos hmol] at h
      cases hn : nameOk a.part with
      | false => rw [hn] at h; cases h
      | true =>
        rw [hn] at h
        cases hop : pyIndex ops (e.n - 1) with
        | none => rw [hop] at h; cases h
        | some op =>
          rw [hop] at h
          exact Or.inr ⟨op, _, rfl, rfl, hmol, rfl, (Option.some.inj ((apply_ite some ..).trans h)).symm⟩
    · rw [if_neg hmol] at h
      exact Or.inl ⟨Or.inr hmol, (Option.some.inj h).symm⟩

/-- The invariant of `packer`'s two loops, read at the end: the shown originals, then `rest`; each atom of `rest` is an
    image that an entry of `need` asks for, and is `Apart` from every atom before it (`isThere` found none when it was
    appended). -/
theorem packer_shape {ker : Kernel K} {ops : List (Op K)} {asymm : List (Atom K)} {need : List Need} {withQ : Bool}
    {res : List (Atom K)} (h : packer ker ops asymm need withQ = some res) :
    ∃ rest, res = shownOriginals withQ asymm ++ rest ∧
      (∀ a ∈ rest, ∃ e ∈ need, ∃ op ∈ ops, ∃ o ∈ asymm, o.qpeak = false ∧ o.mol = e.group ∧
        IsImageOf ker op (e.h - 5) (e.k - 5) (e.l - 5) o a) ∧
      rest.Pairwise (Apart ker) ∧ ∀ a ∈ shownOriginals withQ asymm, ∀ b ∈ rest, Apart ker a b := by
  refine foldlM_inv ?_ (fun s hs e he s' hstep => foldlM_inv hs (fun t ht o ho t' hpa => ?_) hstep) h
  · exact ⟨[], (List.append_nil _).symm, fun _ ha => (nomatch ha), .nil, fun _ _ _ hb => (nomatch hb)⟩
  rcases packAtom_cases hpa with ⟨-, rfl⟩ | ⟨op, na, hop, hq, hmol, hna, rfl⟩
  · exact ht
  by_cases hthere : isThere ker t na = true
  · exact (if_pos hthere).symm ▸ ht
  rw [if_neg hthere]
  obtain ⟨rest, rfl, himg, hpw, hcross⟩ := ht
  have hap : ∀ a ∈ shownOriginals withQ asymm ++ rest, Apart ker a na :=
    fun a ha hpart hco => hthere (isThere_iff.mpr ⟨hpart, a, ha, hco⟩)
  refine ⟨rest ++ [na], List.append_assoc .., ?_, ?_, ?_⟩
  · rw [List.forall_mem_append, List.forall_mem_singleton]
    exact ⟨himg, e, he, op, pyIndex_mem hop, o, ho, hq, hmol, hna ▸ mkImage_isImage hq⟩
  · exact List.pairwise_append.mpr ⟨hpw, List.pairwise_singleton .., fun x hx y hy =>
      List.mem_singleton.mp hy ▸ hap x (List.mem_append_right _ hx)⟩
  · intro a ha
    rw [List.forall_mem_append, List.forall_mem_singleton]
    exact ⟨hcross a ha, hap a (List.mem_append_left _ ha)⟩

theorem packer_complete {ker : Kernel K} {ops : List (Op K)} {asymm : List (Atom K)} {need : List Need} {withQ : Bool}
    {res : List (Atom K)} (h : packer ker ops asymm need withQ = some res)
    {e : Need} (he : e ∈ need) {op : Op K} (hop : pyIndex ops (e.n - 1) = some op)
    {o : Atom K} (ho : o ∈ asymm) (hq : o.qpeak = false) (hmol : o.mol = e.group) :
    imagePresent ker res (mkImage ker op (e.h - 5) (e.k - 5) (e.l - 5) o) := by
  have hmono : ∀ na e' s, imagePresent ker s na →
      ∀ x s', packAtom ker ops withQ e' s x = some s' → imagePresent ker s' na := by
    intro na e' s hs x s' hx
    rcases packAtom_cases hx with ⟨-, rfl⟩ | ⟨_, _, -, -, -, -, rfl⟩
    · exact hs
    · split
      · exact hs
      · exact imagePresent_mono (List.subset_append_left ..) hs
  -- the step for `(e, o)` finds or appends the image, and no step loses one that is present
  refine foldlM_visit he (fun s s' hs => foldlM_visit ho (fun t t' ht => ?_) (hmono _ e) hs)
    (fun s hs e' s' => foldlM_inv hs fun t ht x _ => hmono _ e' t ht x) h
  rcases packAtom_cases ht with ⟨hskip | hskip, -⟩ | ⟨op', _, hop', -, -, rfl, rfl⟩
  · rw [hq] at hskip; cases hskip
  · exact absurd hmol hskip
  · cases hop.symm.trans hop'
    split
    next hthere => exact Or.inr (isThere_iff.mp hthere)
    next => exact Or.inl (List.mem_append_right _ (List.mem_singleton_self _))

end

/-- the original atoms (Q-peaks only if requested) come first, unchanged -/
theorem grow_prefix (ker : Kernel K) (ops : List (Op K)) (asymm : List (Atom K)) (sdm : List (SdmItem K)) (withQ : Bool)
    (res : List (Atom K)) (h : grow ker ops asymm sdm withQ = some res) :
    ∃ rest, res = shownOriginals withQ asymm ++ rest :=
  (packer_shape h).imp fun _ hr => hr.1

/-- everything behind the originals is `R x + t + (h,k,l)`, `(h,k,l) ∈ ℤ³`, of an original atom that is no Q-peak, under
    an operator of the list, with the same element, PART, occupation code and U values -/
theorem grown_atoms_are_images (ker : Kernel K) (ops : List (Op K)) (asymm : List (Atom K)) (sdm : List (SdmItem K))
    (withQ : Bool) (res : List (Atom K)) (h : grow ker ops asymm sdm withQ = some res) :
    ∀ a ∈ res.drop (shownOriginals withQ asymm).length,
      ∃ op ∈ ops, ∃ o ∈ asymm, ∃ hh kk ll : Int, o.qpeak = false ∧ IsImageOf ker op hh kk ll o a := by
  obtain ⟨rest, rfl, himg, -⟩ := packer_shape h
  intro a ha
  rw [List.drop_left] at ha
  obtain ⟨e, -, op, hop, o, ho, hq, -, him⟩ := himg a ha
  exact ⟨op, hop, o, ho, _, _, _, hq, him⟩

section
-- the two statements take the section's `[LE K] [DecidableLE K]`, which `packer` does not use; `omit`, as above, would
-- take the two instance arguments out of their signatures
set_option linter.unusedSectionVars false

/-- if no two of the shown original atoms of one PART >= 0 coincide, no two atoms of the result do (later minus earlier,
    the code's test `vector_length(new - old) < 0.2`) -/
theorem no_coincident_same_part (ker : Kernel K) (ops : List (Op K)) (asymm : List (Atom K)) (need : List Need) (withQ : Bool)
    (res : List (Atom K)) (horig : (shownOriginals withQ asymm).Pairwise (Apart ker))
    (h : packer ker ops asymm need withQ = some res) : res.Pairwise (Apart ker) := by
  obtain ⟨rest, rfl, -, hpw, hcross⟩ := packer_shape h
  exact List.pairwise_append.mpr ⟨horig, hpw, hcross⟩

/-- whatever the originals: an added atom of PART >= 0 does not coincide with any atom before it; of an added atom of
    PART < 0 nothing is said (`no_coincident_fails_on_negative_part`) -/
theorem added_atoms_apart (ker : Kernel K) (ops : List (Op K)) (asymm : List (Atom K)) (need : List Need) (withQ : Bool)
    (res : List (Atom K)) (h : packer ker ops asymm need withQ = some res) :
    ∀ pre b post, res = pre ++ b :: post → (shownOriginals withQ asymm).length ≤ pre.length → ∀ a ∈ pre, Apart ker a b := by
  obtain ⟨rest, rfl, -, hpw, hcross⟩ := packer_shape h
  intro pre b post hsplit hlen a ha
  -- `pre` reaches beyond the originals: the split is a split of `rest`
  obtain ⟨pre', rfl⟩ := List.prefix_of_prefix_length_le (List.prefix_append _ rest) ⟨_, hsplit.symm⟩ hlen
  cases List.append_cancel_left (hsplit.trans (List.append_assoc ..))
  rcases List.mem_append.mp ha with ha | ha
  · exact hcross a ha b (List.mem_append_right _ List.mem_cons_self)
  · exact (List.pairwise_append.mp hpw).2.2 a ha b List.mem_cons_self

end

theorem subset_addNeed (need : List Need) (c : Option Need) : need ⊆ addNeed need c := by
  unfold addNeed
  split
  · exact List.Subset.refl _
  · split
    · exact List.Subset.refl _
    · exact List.subset_append_left ..

theorem mem_addNeed (need : List Need) (bs : Need) : bs ∈ addNeed need (some bs) := by
  show bs ∈ if bs ∈ need then need else need ++ [bs]
  split
  next hmem => exact hmem
  next => exact List.mem_append_right _ (List.mem_singleton_self bs)

theorem collectOps_eq_foldl (ker : Kernel K) (it : SdmItem K) (ops : List (Op K)) (n : Nat) (need : List Need) :
    collectOps ker it ops n need = (ops.zipIdx n).foldl (fun s p => addNeed s (candidate ker it p.2 p.1)) need := by
  induction ops generalizing n need with
  | nil => rfl
  | cons op rest ih => exact ih ..

theorem subset_collectItem (ker : Kernel K) (ops : List (Op K)) (need : List Need) (it : SdmItem K) :
    need ⊆ collectItem ker ops need it := by
  unfold collectItem
  split
  · rw [collectOps_eq_foldl]
    exact List.foldlRecOn _ _ (List.Subset.refl _) fun s hs p _ => List.Subset.trans hs (subset_addNeed s _)
  · exact List.Subset.refl _

theorem collectNeeded_mem {ker : Kernel K} {ops : List (Op K)} {sdm : List (SdmItem K)} {it : SdmItem K}
    (hit : it ∈ sdm) (hact : itemActive ker it = true) {n : Nat} {op : Op K} (hop : ops[n]? = some op) {bs : Need}
    (hc : candidate ker it n op = some bs) : bs ∈ collectNeeded ker ops sdm := by
  refine mem_foldl (subset_collectItem ker ops) hit (fun need => ?_) []
  rw [collectItem, if_pos hact, collectOps_eq_foldl]
  exact mem_foldl (fun s _ => subset_addNeed s _) (List.mk_mem_zipIdx_iff_getElem?.mpr hop)
    (fun s => hc ▸ mem_addNeed s bs) need

/-! `it` is the SDM item, `op` the operator number `n`, `(fl, dp) = wrapDiff (op atom1) atom2`. -/

/-- the molecule number of atom1 is one the code grows: at least `molLow` (atoms without a molecule — lone H — have -1)
    and not above the limit in the source, if there is one (unchanged tree: 6; none after fixes/C14_2) -/
def MolIndexInRange (ker : Kernel K) (it : SdmItem K) : Prop :=
  ker.molLow ≤ it.atom1.mol ∧ ∀ m, ker.molLimit = some m → it.atom1.mol ≤ m

/-- the image contact is inside the code's window: at most `d_min + 0.2` (1.8 for H...H), d_min = SDM distance of the
    pair -/
def InWindow (ker : Kernel K) (it : SdmItem K) (dp : V3 K) : Prop :=
  (if it.atom1.isH && it.atom2.isH then ker.hh else it.dist + ker.window) ≥ ker.vlen dp.x dp.y dp.z

/-- the image meant is the one the code looks at: translation `-floor(op x1 - x2 + 1/2)`, and it is not atom1 itself -/
def WrappedTranslate (n : Nat) (fl : V3 Int) (h k l : Int) : Prop :=
  h = -fl.x ∧ k = -fl.y ∧ l = -fl.z ∧ ¬ (n = 0 ∧ fl = ⟨0, 0, 0⟩)

theorem itemActive_of_inRange {K : Type} {ker : Kernel K} {it : SdmItem K} (hcov : it.covalent = true)
    (h : MolIndexInRange ker it) : itemActive ker it = true := by
  rw [itemActive, hcov, Bool.true_and, decide_eq_false (Int.not_lt.mpr h.1), Bool.false_or]
  cases hlim : ker.molLimit with
  | none => rfl
  | some m => exact congrArg (!·) (decide_eq_false (Int.not_lt.mpr (h.2 m hlim)))

theorem candidate_eq_some {ker : Kernel K} {it : SdmItem K} {n : Nat} {op : Op K} (hparts : partsClash it = false)
    (hhh : sameHydrogen it = false) (w : V3 Int × V3 K)
    (hw : w = wrapDiff ker (applyOp ker op it.atom1.pos) it.atom2.pos) (hnot : ¬ (n = 0 ∧ w.1 = ⟨0, 0, 0⟩))
    (hfar : ker.vlen w.2.x w.2.y w.2.z > ker.eps) (hwin : InWindow ker it w.2) :
    candidate ker it n op = some ⟨n + 1, 5 - w.1.x, 5 - w.1.y, 5 - w.1.z, it.atom1.mol⟩ := by
  subst hw
  unfold candidate
  rw [hparts, hhh, if_neg Bool.false_ne_true, if_neg Bool.false_ne_true]
  exact (if_neg hnot).trans (if_pos ⟨hfar, hwin⟩)

/-- Full-strength completeness as the property words it: whenever the image `op(a1) + (h,k,l)` of an atom of the
    asymmetric unit lies within the bond limit of an atom `a2` of it (and is not that site itself), the image of every
    atom of a1's molecule under the same operation is present.  Not a theorem, and no theorem mentions it: the two
    `bonded_images_present_fails_…` prove `∃ res, grow … = some res ∧ ¬ imagePresent … res (image)`; that the image is
    within the bond limit, which would refute this statement on their inputs, is said in their docstrings only. -/
def BondedImagesPresentStatement (ker : Kernel K) (bondLimit : Atom K → Atom K → K) (ops : List (Op K)) (asymm : List (Atom K))
    (sdm : List (SdmItem K)) (withQ : Bool) : Prop :=
  ∀ res, grow ker ops asymm sdm withQ = some res →
    ∀ a1 ∈ asymm, ∀ a2 ∈ asymm, ∀ op ∈ ops, ∀ h k l : Int, a1.qpeak = false → a2.qpeak = false →
      ¬ ker.vlen ((shift ker (applyOp ker op a1.pos) h k l).x - a2.pos.x) ((shift ker (applyOp ker op a1.pos) h k l).y - a2.pos.y)
          ((shift ker (applyOp ker op a1.pos) h k l).z - a2.pos.z) < ker.dupLim →
      ker.vlen ((shift ker (applyOp ker op a1.pos) h k l).x - a2.pos.x) ((shift ker (applyOp ker op a1.pos) h k l).y - a2.pos.y)
          ((shift ker (applyOp ker op a1.pos) h k l).z - a2.pos.z) < bondLimit a1 a2 →
      ∀ o ∈ asymm, o.qpeak = false → o.mol = a1.mol → imagePresent ker res (mkImage ker op h k l o)

/-- Completeness of `collect_needed_symmetry` + `packer`: if for a covalent SDM item `(atom1, atom2)` and `op = ops[n]`
    the image `op(atom1) + (h,k,l)` is the wrapped translate, farther than `eps` from atom2 and inside the window, the
    PARTs are compatible, it is not H next to H and the molecule number is in range, then the image `op(o) + (h,k,l)` of
    every non-Q atom `o` of atom1's molecule is present or, for PART >= 0, suppressed as a duplicate.  Each hypothesis
    marks a place where the code is narrower than the property; without `InWindow` / `WrappedTranslate` the conclusion
    is false (`…_fails_outside_window`, `…_fails_unwrapped`). -/
theorem bonded_images_present_partial (ker : Kernel K) (ops : List (Op K)) (asymm : List (Atom K)) (sdm : List (SdmItem K))
    (withQ : Bool) (res : List (Atom K)) (hres : grow ker ops asymm sdm withQ = some res)
    (it : SdmItem K) (hit : it ∈ sdm) (hcov : it.covalent = true) (hmolr : MolIndexInRange ker it)
    (n : Nat) (op : Op K) (hop : ops[n]? = some op)
    (hparts : partsClash it = false) (hhh : sameHydrogen it = false)
    (h k l : Int) (hwrap : WrappedTranslate n (wrapDiff ker (applyOp ker op it.atom1.pos) it.atom2.pos).1 h k l)
    (hfar : ker.vlen (wrapDiff ker (applyOp ker op it.atom1.pos) it.atom2.pos).2.x
              (wrapDiff ker (applyOp ker op it.atom1.pos) it.atom2.pos).2.y
              (wrapDiff ker (applyOp ker op it.atom1.pos) it.atom2.pos).2.z > ker.eps)
    (hwin : InWindow ker it (wrapDiff ker (applyOp ker op it.atom1.pos) it.atom2.pos).2)
    (o : Atom K) (ho : o ∈ asymm) (hq : o.qpeak = false) (hmol : o.mol = it.atom1.mol) :
    imagePresent ker res (mkImage ker op h k l o) := by
  obtain ⟨rfl, rfl, rfl, hnot⟩ := hwrap
  have hmem := collectNeeded_mem hit (itemActive_of_inRange hcov hmolr) hop
    (candidate_eq_some hparts hhh _ rfl hnot hfar hwin)
  have := packer_complete hres hmem (by simpa only [Int.add_sub_cancel, pyIndex_natCast] using hop) ho hq hmol
  simpa only [sub_sub_cancel_left] using this

end

/-- cell a x 9 x 10 A, orthogonal: length of an axis-parallel vector (the only ones in the examples that use it).  The
    thresholds are typed in, not taken from `Consts` (`dupLim_is_the_property_distance` ties the one value `dupLim`);
    `lim` is the molecule limit. -/
def kerAxis (a : Rat) (lim : Option Int) : Kernel Rat :=
  { ofInt := fun i => (i : Rat), floor := Rat.floor, vlen := fun x y z => a * |x| + 9 * |y| + 10 * |z|, half := 1 / 2,
    dupLim := 1 / 5, window := 1 / 5, eps := 1 / 1000, hh := 9 / 5, molLow := 1, molLimit := lim }

def opId : Op Rat := ⟨⟨1, 0, 0⟩, ⟨0, 1, 0⟩, ⟨0, 0, 1⟩, ⟨0, 0, 0⟩⟩
def opInv : Op Rat := ⟨⟨-1, 0, 0⟩, ⟨0, -1, 0⟩, ⟨0, 0, -1⟩, ⟨0, 0, 0⟩⟩

def mkAtom (src : Nat) (x y z : Rat) (part : Int) (mol : Int) : Atom Rat :=
  { src := src, sfac := 1, pos := ⟨x, y, z⟩, part := part, sof := 11, u := [1 / 50], qpeak := false, mol := mol, an := 6,
    isH := false, symmgen := false }

/-- half molecule in P-1 (a = 8 A): C1 0.56 A from the inversion centre at 1/2 1/2 1/2, C2 bonded to it (1.2 A) -/
def exHalf : List (Atom Rat) := [mkAtom 0 (57 / 100) (1 / 2) (1 / 2) 0 1, mkAtom 1 (72 / 100) (1 / 2) (1 / 2) 0 1]

def exHalfSdm : List (SdmItem Rat) :=
  match exHalf with
  | [c1, c2] => [⟨c1, c1, 28 / 25, true⟩, ⟨c1, c2, 6 / 5, true⟩, ⟨c2, c1, 6 / 5, true⟩]
  | _ => []

/-- the hypotheses of the theorems are met by a non-trivial input: the half molecule is completed (the two images
    `1 - x`), originals first -/
example : (grow (kerAxis 8 (some 6)) [opId, opInv] exHalf exHalfSdm false).map (fun r => r.map (fun a => (a.src, a.pos.x, a.symmgen)))
    = some [(0, 57 / 100, false), (1, 72 / 100, false), (0, 43 / 100, true), (1, 28 / 100, true)] := by decide +kernel

example : collectNeeded (kerAxis 8 (some 6)) [opId, opInv] exHalfSdm = [⟨2, 6, 6, 6, 1⟩] := by decide +kernel

instance (ker : Kernel Rat) (a b : Atom Rat) : Decidable (Apart ker a b) := by unfold Apart; infer_instance

/-- `no_coincident_same_part` applies to it: the two original atoms are 1.2 A apart -/
example (res : List (Atom Rat)) (h : packer (kerAxis 8 (some 6)) [opId, opInv] exHalf [⟨2, 6, 6, 6, 1⟩] false = some res) :
    res.Pairwise (Apart (kerAxis 8 (some 6))) :=
  no_coincident_same_part _ _ _ _ _ res (by decide +kernel) h

/-- `bonded_images_present_partial` applies to it: item (C1, C1), inversion (n = 1), translation (1,1,1) give the image
    of C2 at x = 1 - 0.72 -/
example (res : List (Atom Rat)) (h : grow (kerAxis 8 (some 6)) [opId, opInv] exHalf exHalfSdm false = some res) :
    imagePresent (kerAxis 8 (some 6)) res (mkImage (kerAxis 8 (some 6)) opInv 1 1 1 (mkAtom 1 (72 / 100) (1 / 2) (1 / 2) 0 1)) :=
  bonded_images_present_partial _ _ _ _ _ res h
    (it := ⟨mkAtom 0 (57 / 100) (1 / 2) (1 / 2) 0 1, mkAtom 0 (57 / 100) (1 / 2) (1 / 2) 0 1, 28 / 25, true⟩)
    (hit := by decide +kernel) (hcov := rfl)
    (hmolr := ⟨by decide +kernel, by intro m hm; cases hm; decide +kernel⟩)
    (n := 1) (op := opInv) (hop := rfl)
    (hparts := by decide +kernel) (hhh := by decide +kernel)
    (h := 1) (k := 1) (l := 1) (hwrap := by unfold WrappedTranslate; decide +kernel)
    (hfar := by decide +kernel)
    (hwin := by unfold InWindow; decide +kernel)
    (ho := by decide +kernel) (hq := rfl) (hmol := rfl)

/-- open finding `C14|coincide|part<0|atom-on-special-position`: C1 of PART -1 exactly on the inversion centre, C2 1.2 A
    away; the image of C1 is appended on top of C1. -/
def exNeg : List (Atom Rat) := [mkAtom 0 (1 / 2) (1 / 2) (1 / 2) (-1) 1, mkAtom 1 (13 / 20) (1 / 2) (1 / 2) (-1) 1]

def exNegSdm : List (SdmItem Rat) :=
  match exNeg with
  | [c1, c2] => [⟨c1, c2, 6 / 5, true⟩, ⟨c2, c1, 6 / 5, true⟩]
  | _ => []

/-- the statement of the property without the restriction to PART >= 0 -/
def NoCoincidentStatement (ker : Kernel Rat) (res : List (Atom Rat)) : Prop :=
  res.Pairwise fun a b => ¬ Coincide ker a b

theorem no_coincident_fails_on_negative_part :
    ∃ res, grow (kerAxis 8 (some 6)) [opId, opInv] exNeg exNegSdm false = some res ∧
      ¬ NoCoincidentStatement (kerAxis 8 (some 6)) res := by
  unfold NoCoincidentStatement
  -- decided by running `grow`: `∃ res, o = some res ∧ p res` is `∃ res ∈ o, p res`, core's `Option.decidableExistsMem`
  decide +kernel

/-- open finding `C14|complete|not-nearest-translate`: S chain along a 2.1 A axis in P1; the bonded image `x + 1`
    (limit 2.448 A) of the atom itself is the identity with translation (1,0,0); the code looks at the wrapped translate
    only, which is the atom itself.  Nothing is collected, the image is absent (the theorem; "bonded" is the prose
    here). -/
def exChain : List (Atom Rat) := [mkAtom 0 (1 / 4) (1 / 2) (1 / 2) 0 1]

theorem bonded_images_present_fails_unwrapped :
    ∃ res, grow (kerAxis (21 / 10) none) [opId] exChain
          [⟨mkAtom 0 (1 / 4) (1 / 2) (1 / 2) 0 1, mkAtom 0 (1 / 4) (1 / 2) (1 / 2) 0 1, 21 / 10, true⟩] false
        = some res ∧
      ¬ imagePresent (kerAxis (21 / 10) none) res
          (mkImage (kerAxis (21 / 10) none) opId 1 0 0 (mkAtom 0 (1 / 4) (1 / 2) (1 / 2) 0 1)) := by
  unfold imagePresent
  decide +kernel

/-- open finding `C14|complete|outside-window`: four-membered ring C1 C2 C1' C2' on the inversion centre at the
    origin of a 10 A cubic cell, C1 = (0.1, 0.015, 0), C2 = (0, 0.1, 0): C1–C2 1.3124 A, C1'–C2 1.5239 A (bonded, limit
    1.848 A), diagonals 2.02 / 2.0 A (not bonded).  `vlen` is the table of the Euclidean lengths (to 4 decimals; 1.52397 appears
    cut to 1.5239) of the difference vectors that occur.  The only covalent items are (C1,C2), (C2,C1) with d_min = 1.3124; the inverted image
    is at 1.5239 > 1.3124 + 0.2, nothing is collected, the ring stays half: the image of C1 is absent (the theorem;
    "bonded" is the prose here).  Thresholds typed in as in `kerAxis`. -/
def kerRing : Kernel Rat :=
  { ofInt := fun i => (i : Rat), floor := Rat.floor, half := 1 / 2, dupLim := 1 / 5, window := 1 / 5, eps := 1 / 1000, hh := 9 / 5,
    molLow := 1, molLimit := none,
    vlen := fun x y z =>
      if z ≠ 0 then 1000
      else if (x, y) = (1 / 10, -17 / 200) ∨ (x, y) = (-1 / 10, 17 / 200) then 13124 / 10000
      else if (x, y) = (-1 / 10, -23 / 200) ∨ (x, y) = (1 / 10, 23 / 200) then 15239 / 10000
      else if (x, y) = (-1 / 5, -3 / 100) ∨ (x, y) = (1 / 5, 3 / 100) then 20224 / 10000
      else if (x, y) = (0, -1 / 5) ∨ (x, y) = (0, 1 / 5) then 2
      else if (x, y) = (0, 0) then 0 else 1000 }

def exRing : List (Atom Rat) := [mkAtom 0 (1 / 10) (3 / 200) 0 0 1, mkAtom 1 0 (1 / 10) 0 0 1]

def exRingSdm : List (SdmItem Rat) :=
  match exRing with
  | [c1, c2] =>
    [⟨c1, c2, 13124 / 10000, true⟩, ⟨c2, c1, 13124 / 10000, true⟩, ⟨c1, c1, 20224 / 10000, false⟩, ⟨c2, c2, 2, false⟩]
  | _ => []

theorem bonded_images_present_fails_outside_window :
    ∃ res, grow kerRing [opId, opInv] exRing exRingSdm false = some res ∧
      ¬ imagePresent kerRing res (mkImage kerRing opInv 0 0 0 (mkAtom 0 (1 / 10) (3 / 200) 0 0 1)) := by
  unfold imagePresent
  decide +kernel

/-- `no_coincident_same_part` and `imagePresent` speak about `ker.dupLim`, whatever it is; the property names the
    distance: 0.2 A.  The kernel the driver runs takes `dupLim` from `Extracted/C14Consts.lean`, i.e. from what `packer`
    of the working tree was observed to do (extract/probe_c14.py), re-checked on every run: a tree whose `packer`
    suppresses images at another distance no longer proves the property as stated (larger: bonded images go missing;
    smaller: atoms of one PART closer than 0.2 A). -/
theorem dupLim_is_the_property_distance : Consts.dupLimR = 1 / 5 := by decide +kernel

end Shelx.C14
