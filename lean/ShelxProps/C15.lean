/-
  C15 — property theorems (model and specification: ShelxModel/C15.lean).

  Algebraic statements are proved over an arbitrary field `K`, the ones that need an order over ℝ.  `sqrt`, `acos`,
  `degrees`, `round(., 9)` are arbitrary functions `T : Trans K`; wherever a theorem needs one of their defining
  relations it is an explicit hypothesis (DESIGN 2.1/5).  Theorems without such a hypothesis hold for every choice of
  these functions, in particular for the floating point ones up to the rounding of `+ - * /`.

  Not proved: `torsionModel = specTorsion`, `angleModel = specAngle`.  Of the specification's pair
  `(specTorsionX, specTorsionY)` there is `spec_x_eq`, `spec_circle`, `spec_sign` and no more, nothing being assumed of
  `T.atan2`; the harness compares model and specification numerically on every case (ShelxModel/Drv/C15.lean).
-/
import ShelxModel.C15
import ShelxModel.Extracted.C15Src
import Mathlib.Tactic.Ring
import Mathlib.Tactic.Linarith
import Mathlib.Tactic.FieldSimp
import Mathlib.Tactic.LinearCombination
import Mathlib.Tactic.NormNum
import Mathlib.Data.Real.Basic

namespace Shelx.C15

structure M3 (K : Type) where
  a11 : K
  a12 : K
  a13 : K
  a21 : K
  a22 : K
  a23 : K
  a31 : K
  a32 : K
  a33 : K

section algebra
variable {K : Type} [Field K]

def M3.apply (R : M3 K) (v : V3 K) : V3 K :=
  ⟨R.a11 * v.x + R.a12 * v.y + R.a13 * v.z, R.a21 * v.x + R.a22 * v.y + R.a23 * v.z, R.a31 * v.x + R.a32 * v.y + R.a33 * v.z⟩

def M3.det (R : M3 K) : K :=
  R.a11 * (R.a22 * R.a33 - R.a23 * R.a32) - R.a12 * (R.a21 * R.a33 - R.a23 * R.a31) + R.a13 * (R.a21 * R.a32 - R.a22 * R.a31)

/-- `Rᵀ R = 1` -/
structure IsOrtho (R : M3 K) : Prop where
  h11 : R.a11 * R.a11 + R.a21 * R.a21 + R.a31 * R.a31 = 1
  h22 : R.a12 * R.a12 + R.a22 * R.a22 + R.a32 * R.a32 = 1
  h33 : R.a13 * R.a13 + R.a23 * R.a23 + R.a33 * R.a33 = 1
  h12 : R.a11 * R.a12 + R.a21 * R.a22 + R.a31 * R.a32 = 0
  h13 : R.a11 * R.a13 + R.a21 * R.a23 + R.a31 * R.a33 = 0
  h23 : R.a12 * R.a13 + R.a22 * R.a23 + R.a32 * R.a33 = 0

def rigid (R : M3 K) (t p : V3 K) : V3 K :=
  ⟨(R.apply p).x + t.x, (R.apply p).y + t.y, (R.apply p).z + t.z⟩

theorem sub_rigid (R : M3 K) (t p q : V3 K) : (rigid R t p).sub (rigid R t q) = R.apply (p.sub q) := by
  simp only [rigid, V3.sub, M3.apply, V3.mk.injEq]
  refine ⟨by ring, by ring, by ring⟩

/-- the hand-expanded polynomial of `torsion_angle` (as repaired) is `v1 · (v2 × v3)` -/
theorem direction_eq_triple (v1 v2 v3 : V3 K) : directionCode v1 v2 v3 = triple v1 v2 v3 := by
  simp only [directionCode, triple]; ring

/-- the expression with the typo term `v1[2]*v1[1]*v3[0]` (the unchanged tree's; fixes/C15_1 corrects it) is `-1`
    where the triple product is `+1` on `v1 = (0,1,2), v2 = (0,0,1), v3 = (1,0,0)` (atoms at (0,-1,-2), (0,0,0),
    (0,0,1), (1,0,1): a torsion angle of +90° comes out as -90°) -/
theorem direction_typo_wrong_sign :
    directionTypo (⟨0, 1, 2⟩ : V3 ℚ) ⟨0, 0, 1⟩ ⟨1, 0, 0⟩ < 0 ∧ 0 < triple (⟨0, 1, 2⟩ : V3 ℚ) ⟨0, 0, 1⟩ ⟨1, 0, 0⟩ := by
  simp only [directionTypo, triple]; norm_num

theorem direction_typo_ne_triple :
    ¬ ∀ v1 v2 v3 : V3 ℚ, directionTypo v1 v2 v3 = triple v1 v2 v3 := fun h =>
  have ⟨hneg, hpos⟩ := direction_typo_wrong_sign
  lt_asymm hneg (h _ _ _ ▸ hpos)

theorem direction_eq (p1 p2 p3 p4 : V3 K) :
    direction p1 p2 p3 p4 = triple (p2.sub p1) (p3.sub p2) (p4.sub p3) := direction_eq_triple _ _ _

/-- Binet–Cauchy -/
theorem cross_dot_cross (a b c d : V3 K) :
    sdot (a.cross b) (c.cross d) = sdot a c * sdot b d - sdot a d * sdot b c := by
  simp only [sdot, V3.cross]; ring

theorem dot_rot (R : M3 K) (h : IsOrtho R) (a b : V3 K) : sdot (R.apply a) (R.apply b) = sdot a b := by
  obtain ⟨h11, h22, h33, h12, h13, h23⟩ := h
  simp only [sdot, M3.apply]
  linear_combination (a.x * b.x) * h11 + (a.y * b.y) * h22 + (a.z * b.z) * h33 + (a.x * b.y + a.y * b.x) * h12
    + (a.x * b.z + a.z * b.x) * h13 + (a.y * b.z + a.z * b.y) * h23

theorem triple_rot (R : M3 K) (a b c : V3 K) :
    triple (R.apply a) (R.apply b) (R.apply c) = R.det * triple a b c := by
  simp only [triple, M3.apply, M3.det]; ring

theorem sdot_comm (a b : V3 K) : sdot a b = sdot b a := by simp only [sdot]; ring

theorem dot_eq_sdot (a b : V3 K) : a.dot b = sdot a b := by simp only [V3.dot, sdot]; ring

theorem normSq_eq_sdot (a : V3 K) : a.normSq = sdot a a := by simp only [V3.normSq, sdot]; ring

/-- numerator of cos φ from the bond vectors -/
def tNum (v1 v2 v3 : V3 K) : K := sdot v1 v2 * sdot v2 v3 - sdot v1 v3 * sdot v2 v2

/-- `|v × w|²` (Lagrange) -/
def nSq (v w : V3 K) : K := sdot v v * sdot w w - sdot v w * sdot v w

theorem sq3_cross (v w : V3 K) : sq3 (v.cross w) = nSq v w :=
  (cross_dot_cross v w v w).trans (by rw [sdot_comm w v, nSq])

theorem torsionNum_eq (p1 p2 p3 p4 : V3 K) :
    torsionNum p1 p2 p3 p4 = tNum (p2.sub p1) (p3.sub p2) (p4.sub p3) :=
  cross_dot_cross _ _ _ _

/-- the `acos` argument of `torsion_angle` is a function of the six dot products of the bond vectors only -/
theorem torsionCos_dots (T : Trans K) (p1 p2 p3 p4 : V3 K) :
    torsionCos T p1 p2 p3 p4 = tNum (p2.sub p1) (p3.sub p2) (p4.sub p3)
      / (T.sqrt (nSq (p2.sub p1) (p3.sub p2)) * T.sqrt (nSq (p3.sub p2) (p4.sub p3))) := by
  simp only [torsionCos, torsionNum_eq, sq3_cross]

theorem vecCos_dots (T : Trans K) (v w : V3 K) :
    vecCos T v w = sdot v w / (T.sqrt (sdot v v) * T.sqrt (sdot w w)) := by
  simp only [vecCos, dot_eq_sdot, normSq_eq_sdot]

theorem torsionCos_rigid (T : Trans K) (R : M3 K) (t : V3 K) (h : IsOrtho R) (p1 p2 p3 p4 : V3 K) :
    torsionCos T (rigid R t p1) (rigid R t p2) (rigid R t p3) (rigid R t p4) = torsionCos T p1 p2 p3 p4 := by
  simp only [torsionCos_dots, sub_rigid, tNum, nSq, dot_rot R h]

theorem direction_rigid (R : M3 K) (t : V3 K) (p1 p2 p3 p4 : V3 K) :
    direction (rigid R t p1) (rigid R t p2) (rigid R t p3) (rigid R t p4) = R.det * direction p1 p2 p3 p4 := by
  simp only [direction_eq, sub_rigid, triple_rot]

/-! reading the chain backwards turns the bond vectors `(v1, v2, v3)` into `(-v3, -v2, -v1)` -/

def V3.neg (a : V3 K) : V3 K := ⟨-a.x, -a.y, -a.z⟩

theorem sub_swap (p q : V3 K) : p.sub q = (q.sub p).neg := by
  simp only [V3.sub, V3.neg, neg_sub]

theorem sdot_neg_neg (a b : V3 K) : sdot a.neg b.neg = sdot a b := by
  simp only [sdot, V3.neg, neg_mul_neg]

theorem tNum_rev (a b c : V3 K) : tNum c.neg b.neg a.neg = tNum a b c := by
  simp only [tNum, sdot_neg_neg, sdot_comm c, sdot_comm b a, mul_comm]

theorem nSq_rev (a b : V3 K) : nSq b.neg a.neg = nSq a b := by
  simp only [nSq, sdot_neg_neg, sdot_comm b a, mul_comm]

theorem triple_rev (a b c : V3 K) : triple c.neg b.neg a.neg = triple a b c := by
  simp only [triple, V3.neg]; ring

section order
variable [LT K] [∀ a b : K, Decidable (a < b)]

/-- `torsion_angle` as a function of its `acos` argument and its sign expression -/
def signedAngle (T : Trans K) (c d : K) : K :=
  let ang := T.acos (clampUnit c)
  if 0 < d then T.deg ang else T.deg (-ang)

theorem torsionModel_eq (T : Trans K) (p1 p2 p3 p4 : V3 K) :
    torsionModel T p1 p2 p3 p4 = signedAngle T (torsionCos T p1 p2 p3 p4) (direction p1 p2 p3 p4) := rfl

theorem torsionModel_rigid (T : Trans K) (R : M3 K) (t : V3 K) (h : IsOrtho R) (p1 p2 p3 p4 : V3 K) :
    torsionModel T (rigid R t p1) (rigid R t p2) (rigid R t p3) (rigid R t p4)
      = signedAngle T (torsionCos T p1 p2 p3 p4) (R.det * direction p1 p2 p3 p4) := by
  rw [torsionModel_eq, torsionCos_rigid T R t h, direction_rigid]

/-- the torsion angle is the same after a proper rigid motion of all four atoms -/
theorem torsion_rigid (T : Trans K) (R : M3 K) (t : V3 K) (h : IsOrtho R) (hdet : R.det = 1) (p1 p2 p3 p4 : V3 K) :
    torsionModel T (rigid R t p1) (rigid R t p2) (rigid R t p3) (rigid R t p4) = torsionModel T p1 p2 p3 p4 := by
  rw [torsionModel_rigid T R t h, hdet, one_mul, torsionModel_eq]

/-- D–C–B–A has the torsion angle of A–B–C–D -/
theorem torsion_reverse (T : Trans K) (p1 p2 p3 p4 : V3 K) :
    torsionModel T p4 p3 p2 p1 = torsionModel T p1 p2 p3 p4 := by
  simp only [torsionModel_eq, torsionCos_dots, direction_eq, sub_swap p3 p4, sub_swap p2 p3, sub_swap p1 p2, tNum_rev,
    nSq_rev, triple_rev, mul_comm]

end order

theorem angle_symm (T : Trans K) (p1 p2 p3 : V3 K) : angleModel T p1 p2 p3 = angleModel T p3 p2 p1 := by
  simp only [angleModel, vecAngle, vecCos_dots, sdot_comm (p2.sub p1) (p2.sub p3),
    mul_comm (T.sqrt (sdot (p2.sub p1) (p2.sub p1)))]

/-- the angle is the same after any isometry of all three atoms -/
theorem angle_rigid (T : Trans K) (R : M3 K) (t : V3 K) (h : IsOrtho R) (p1 p2 p3 : V3 K) :
    angleModel T (rigid R t p1) (rigid R t p2) (rigid R t p3) = angleModel T p1 p2 p3 := by
  simp only [angleModel, vecAngle, vecCos_dots, sub_rigid, dot_rot R h]

/-- Lagrange: the pair `(n1·n2, |b2|·[b1,b2,b3]) / (|n1||n2|)` is a point of the unit circle; its first coordinate is
    the model's `acos` argument, the sign of the second is the model's `direction`. -/
theorem torsion_circle (v1 v2 v3 : V3 K) :
    tNum v1 v2 v3 * tNum v1 v2 v3 + sdot v2 v2 * (triple v1 v2 v3 * triple v1 v2 v3) = nSq v1 v2 * nSq v2 v3 := by
  simp only [tNum, nSq, sdot, triple]; ring

theorem spec_x_eq (p1 p2 p3 p4 : V3 K) : specTorsionX p1 p2 p3 p4 = torsionNum p1 p2 p3 p4 := rfl

/-- the specification's `(x, y)` has radius `|n1||n2|` -/
theorem spec_circle (T : Trans K) (p1 p2 p3 p4 : V3 K)
    (hs : T.sqrt (sdot (p3.sub p2) (p3.sub p2)) * T.sqrt (sdot (p3.sub p2) (p3.sub p2)) = sdot (p3.sub p2) (p3.sub p2)) :
    specTorsionX p1 p2 p3 p4 * specTorsionX p1 p2 p3 p4 + specTorsionY T p1 p2 p3 p4 * specTorsionY T p1 p2 p3 p4
      = sq3 ((p2.sub p1).cross (p3.sub p2)) * sq3 ((p3.sub p2).cross (p4.sub p3)) := by
  rw [spec_x_eq, torsionNum_eq, sq3_cross, sq3_cross, ← torsion_circle]
  simp only [specTorsionY]
  linear_combination (triple (p2.sub p1) (p3.sub p2) (p4.sub p3) * triple (p2.sub p1) (p3.sub p2) (p4.sub p3)) * hs

/-- the specification's `y` has the sign of the model's `direction` (over ℝ: it needs the order) -/
theorem spec_sign (T : Trans ℝ) (p1 p2 p3 p4 : V3 ℝ) (hs : 0 < T.sqrt (sdot (p3.sub p2) (p3.sub p2))) :
    0 < specTorsionY T p1 p2 p3 p4 ↔ 0 < direction p1 p2 p3 p4 := by
  rw [direction_eq]
  exact mul_pos_iff_of_pos_left hs

/-- Put the central bond B→C on the +z axis with B at the origin and A over the +x axis.  The viewer at B looking
    towards C looks along +z and sees the rotation +x → +y as *clockwise*; D is reached from the direction of A by the
    clockwise turn of angle φ with `(cos φ, sin φ) = (c, s)`.  The four identities are the ingredients for: with
    `r1, r2, L > 0` the sign of the code's result is the sign of `sin φ` and its `acos` argument is `cos φ`. -/
theorem torsion_canonical (r1 h1 L r2 h2 c s : K) :
    let A : V3 K := ⟨r1, 0, h1⟩
    let B : V3 K := ⟨0, 0, 0⟩
    let C : V3 K := ⟨0, 0, L⟩
    let D : V3 K := ⟨r2 * c, r2 * s, L + h2⟩
    direction A B C D = r1 * r2 * L * s ∧ torsionNum A B C D = r1 * r2 * (L * L) * c
      ∧ sq3 ((B.sub A).cross (C.sub B)) = (r1 * L) * (r1 * L)
      ∧ sq3 ((C.sub B).cross (D.sub C)) = (r2 * L) * (r2 * L) * (c * c + s * s) := by
  simp only [direction, directionCode, torsionNum, sq3, V3.sub, V3.cross, sub_zero, zero_sub, sub_self, mul_zero, zero_mul]
  exact ⟨by ring, by ring, by ring, by ring⟩

end algebra

/-- the witness of the convention: looking from B=(0,0,0) to C=(0,0,1), A lies towards +x and D towards +y: a clockwise
    quarter turn, +90°.  The typo expression agrees here, which is why a fixture with this shape passes. -/
example : 0 < direction (⟨1, 0, 0⟩ : V3 ℚ) ⟨0, 0, 0⟩ ⟨0, 0, 1⟩ ⟨0, 1, 1⟩
    ∧ torsionNum (⟨1, 0, 0⟩ : V3 ℚ) ⟨0, 0, 0⟩ ⟨0, 0, 1⟩ ⟨0, 1, 1⟩ = 0
    ∧ 0 < triple ((⟨0, 0, 0⟩ : V3 ℚ).sub ⟨1, 0, 0⟩) ((⟨0, 0, 1⟩ : V3 ℚ).sub ⟨0, 0, 0⟩) ((⟨0, 1, 1⟩ : V3 ℚ).sub ⟨0, 0, 1⟩) := by
  simp only [direction, directionCode, torsionNum, triple, V3.sub, V3.cross]; norm_num

/-- the hypotheses of `torsion_rigid` can be met: the rotation by 90° about z -/
example : IsOrtho (⟨0, -1, 0, 1, 0, 0, 0, 0, 1⟩ : M3 ℚ) ∧ (⟨0, -1, 0, 1, 0, 0, 0, 0, 1⟩ : M3 ℚ).det = 1 := by
  refine ⟨⟨?_, ?_, ?_, ?_, ?_, ?_⟩, ?_⟩ <;> simp only [M3.det] <;> norm_num

/-- … and those of `torsion_mirror`: the mirror `z ↦ -z` -/
example : IsOrtho (⟨1, 0, 0, 0, 1, 0, 0, 0, -1⟩ : M3 ℚ) ∧ (⟨1, 0, 0, 0, 1, 0, 0, 0, -1⟩ : M3 ℚ).det = -1 := by
  refine ⟨⟨?_, ?_, ?_, ?_, ?_, ?_⟩, ?_⟩ <;> simp only [M3.det] <;> norm_num

section real

theorem signedAngle_neg (T : Trans ℝ) (hdeg : ∀ x, T.deg (-x) = -T.deg x) {c d : ℝ} (hd : d ≠ 0) :
    signedAngle T c (-d) = -signedAngle T c d := by
  unfold signedAngle
  rcases lt_or_gt_of_ne hd with hneg | hpos
  · rw [if_pos (neg_pos.mpr hneg), if_neg (not_lt.mpr hneg.le), hdeg, neg_neg]
  · rw [if_neg (not_lt.mpr (neg_nonpos.mpr hpos.le)), if_pos hpos, hdeg]

/-- the mirror image has the opposite torsion angle.  `direction ≠ 0`: a planar arrangement is its own mirror image,
    there the code returns the same value `degrees(-ang)` for both. -/
theorem torsion_mirror (T : Trans ℝ) (hdeg : ∀ x, T.deg (-x) = -T.deg x) (R : M3 ℝ) (t : V3 ℝ) (h : IsOrtho R)
    (hdet : R.det = -1) (p1 p2 p3 p4 : V3 ℝ) (hd : direction p1 p2 p3 p4 ≠ 0) :
    torsionModel T (rigid R t p1) (rigid R t p2) (rigid R t p3) (rigid R t p4) = -torsionModel T p1 p2 p3 p4 := by
  rw [torsionModel_rigid T R t h, hdet, neg_one_mul, signedAngle_neg T hdeg hd, torsionModel_eq]

/-- `hd` of `torsion_mirror` holds on the convention witness -/
example : direction (⟨1, 0, 0⟩ : V3 ℝ) ⟨0, 0, 0⟩ ⟨0, 0, 1⟩ ⟨0, 1, 1⟩ ≠ 0 := by
  simp only [direction, directionCode, V3.sub]; norm_num

/-- what is assumed of `math.sqrt` -/
structure SqrtOK (T : Trans ℝ) : Prop where
  nonneg : ∀ x, 0 ≤ x → 0 ≤ T.sqrt x
  sq : ∀ x, 0 ≤ x → T.sqrt x * T.sqrt x = x

/-- what is assumed of `math.acos` and `math.degrees` (`pi` is the number π) -/
structure AcosOK (T : Trans ℝ) (pi : ℝ) : Prop where
  pi_pos : 0 < pi
  range : ∀ x, -1 ≤ x → x ≤ 1 → 0 ≤ T.acos x ∧ T.acos x ≤ pi
  top : ∀ x, -1 ≤ x → x ≤ 1 → T.acos x = pi → x = -1
  deg : ∀ x, T.deg x = x * (180 / pi)

/-- what is assumed of `round(., 9)` -/
structure RoundOK (T : Trans ℝ) : Prop where
  mono : ∀ x y, x ≤ y → T.round9 x ≤ T.round9 y
  zero : T.round9 0 = 0
  top : T.round9 180 = 180

theorem sdot_self_nonneg (v : V3 ℝ) : 0 ≤ sdot v v :=
  add_nonneg (add_nonneg (mul_self_nonneg _) (mul_self_nonneg _)) (mul_self_nonneg _)

theorem sdot_self_eq_zero {v : V3 ℝ} (h : sdot v v = 0) : v.x = 0 ∧ v.y = 0 ∧ v.z = 0 := by
  obtain ⟨hxy, hz⟩ := (add_eq_zero_iff_of_nonneg (add_nonneg (mul_self_nonneg _) (mul_self_nonneg _))
    (mul_self_nonneg _)).mp h
  obtain ⟨hx, hy⟩ := (add_eq_zero_iff_of_nonneg (mul_self_nonneg _) (mul_self_nonneg _)).mp hxy
  exact ⟨mul_self_eq_zero.mp hx, mul_self_eq_zero.mp hy, mul_self_eq_zero.mp hz⟩

theorem sdot_sub_pos_of_ne (p q : V3 ℝ) (h : p ≠ q) : 0 < sdot (q.sub p) (q.sub p) := by
  refine (sdot_self_nonneg _).lt_of_ne fun h0 => h ?_
  obtain ⟨hx, hy, hz⟩ := sdot_self_eq_zero h0.symm
  cases p; cases q
  simp only [V3.sub, sub_eq_zero] at hx hy hz
  simp only [V3.mk.injEq]
  exact ⟨hx.symm, hy.symm, hz.symm⟩

theorem cauchy_schwarz (v w : V3 ℝ) : sdot v w * sdot v w ≤ sdot v v * sdot w w :=
  sub_nonneg.mp ((sdot_self_nonneg (v.cross w)).trans_eq (sq3_cross v w))

theorem sqrt_eq_of_sq {T : Trans ℝ} (hs : SqrtOK T) {x y : ℝ} (hy : 0 ≤ y) (h : y * y = x) : T.sqrt x = y := by
  have hx : 0 ≤ x := h ▸ mul_self_nonneg y
  exact (mul_self_inj (hs.nonneg x hx) hy).mp ((hs.sq x hx).trans h.symm)

theorem sqrt_pos_of_pos (T : Trans ℝ) (hs : SqrtOK T) (x : ℝ) (hx : 0 < x) : 0 < T.sqrt x :=
  (hs.nonneg x hx.le).lt_of_ne fun h0 => hx.ne' (by rw [← hs.sq x hx.le, ← h0, mul_zero])

theorem quot_range (n s : ℝ) (hs : 0 < s) (h : n * n ≤ s * s) : -1 ≤ n / s ∧ n / s ≤ 1 :=
  abs_le.mp (by rw [abs_div, div_le_one (abs_pos.mpr hs.ne')]; exact abs_le_iff_mul_self_le.mpr h)

theorem cos_range (T : Trans ℝ) (hs : SqrtOK T) (a b : V3 ℝ) (ha : 0 < sdot a a) (hb : 0 < sdot b b) :
    -1 ≤ sdot a b / (T.sqrt (sdot a a) * T.sqrt (sdot b b)) ∧ sdot a b / (T.sqrt (sdot a a) * T.sqrt (sdot b b)) ≤ 1 := by
  refine quot_range _ _ (mul_pos (sqrt_pos_of_pos T hs _ ha) (sqrt_pos_of_pos T hs _ hb)) ?_
  exact (cauchy_schwarz a b).trans_eq (by rw [mul_mul_mul_comm, hs.sq _ ha.le, hs.sq _ hb.le])

theorem cos_eq_neg_one (T : Trans ℝ) (hs : SqrtOK T) {n x y : ℝ} (hx : 0 < x) (hy : 0 < y)
    (h : n / (T.sqrt x * T.sqrt y) = -1) : n < 0 ∧ n * n = x * y := by
  have hpos := mul_pos (sqrt_pos_of_pos T hs x hx) (sqrt_pos_of_pos T hs y hy)
  have qx := hs.sq x hx.le
  have qy := hs.sq y hy.le
  rw [div_eq_iff hpos.ne', neg_one_mul] at h
  generalize T.sqrt x = a at *
  generalize T.sqrt y = b at *
  subst h
  exact ⟨neg_neg_of_pos hpos, by linear_combination (b * b) * qx + x * qy⟩

/-- the argument of `acos` in `Atoms.angle` lies in `[-1, 1]` (Cauchy–Schwarz), so `acos` is defined -/
theorem angle_cos_range (T : Trans ℝ) (hs : SqrtOK T) (p1 p2 p3 : V3 ℝ) (h12 : p1 ≠ p2) (h32 : p3 ≠ p2) :
    -1 ≤ angleCos T p1 p2 p3 ∧ angleCos T p1 p2 p3 ≤ 1 := by
  simp only [angleCos, vecCos_dots]
  exact cos_range T hs _ _ (sdot_sub_pos_of_ne p1 p2 h12) (sdot_sub_pos_of_ne p3 p2 h32)

theorem deg_strictMono {T : Trans ℝ} {pi : ℝ} (ha : AcosOK T pi) : StrictMono T.deg := fun x y h => by
  rw [ha.deg, ha.deg]
  exact mul_lt_mul_of_pos_right h (div_pos (by norm_num) ha.pi_pos)

theorem deg_zero {T : Trans ℝ} {pi : ℝ} (ha : AcosOK T pi) : T.deg 0 = 0 := by rw [ha.deg, zero_mul]

theorem deg_pi {T : Trans ℝ} {pi : ℝ} (ha : AcosOK T pi) : T.deg pi = 180 := by
  rw [ha.deg, mul_div_cancel₀ _ ha.pi_pos.ne']

/-- `Atoms.angle` lies in `[0, 180]` -/
theorem angle_range (T : Trans ℝ) (pi : ℝ) (hs : SqrtOK T) (ha : AcosOK T pi) (hr : RoundOK T) (p1 p2 p3 : V3 ℝ)
    (h12 : p1 ≠ p2) (h32 : p3 ≠ p2) : 0 ≤ angleModel T p1 p2 p3 ∧ angleModel T p1 p2 p3 ≤ 180 := by
  obtain ⟨c1, c2⟩ := angle_cos_range T hs p1 p2 p3 h12 h32
  obtain ⟨a1, a2⟩ := ha.range _ c1 c2
  have h0 := hr.mono _ _ ((deg_strictMono ha).monotone a1)
  have h180 := hr.mono _ _ ((deg_strictMono ha).monotone a2)
  rw [deg_zero ha, hr.zero] at h0
  rw [deg_pi ha, hr.top] at h180
  exact ⟨h0, h180⟩

/-- `p1 ≠ p2`, `p3 ≠ p2` in `angle_range` are inequalities of `V3` values: one differing coordinate is enough -/
example : (⟨1, 0, 0⟩ : V3 ℝ) ≠ ⟨0, 0, 0⟩ := fun h => one_ne_zero (congrArg V3.x h)

/-- three atoms that are not on one line: `|b1 × b2|² > 0` (the property's "bounded away from collinearity") -/
def NonCollinear (p1 p2 p3 : V3 ℝ) : Prop := 0 < sq3 ((p2.sub p1).cross (p3.sub p2))

theorem clamp_id (x : ℝ) (h1 : -1 ≤ x) (h2 : x ≤ 1) : clampUnit x = x := by
  unfold clampUnit
  rcases h2.lt_or_eq with h | h
  · rw [if_pos h]
    rcases h1.lt_or_eq with h' | h'
    · simp only [if_pos h']
    · simp only [← h']; norm_num
  · subst h; norm_num

/-- for non-collinear A,B,C and B,C,D the argument of `acos` lies in `[-1, 1]`; the clamp of fixes/C15_3 is then the
    identity (it only acts on rounding excess) -/
theorem torsion_cos_range (T : Trans ℝ) (hs : SqrtOK T) (p1 p2 p3 p4 : V3 ℝ) (h1 : NonCollinear p1 p2 p3)
    (h2 : NonCollinear p2 p3 p4) :
    (-1 ≤ torsionCos T p1 p2 p3 p4 ∧ torsionCos T p1 p2 p3 p4 ≤ 1)
      ∧ clampUnit (torsionCos T p1 p2 p3 p4) = torsionCos T p1 p2 p3 p4 :=
  have h := cos_range T hs ((p2.sub p1).cross (p3.sub p2)) ((p3.sub p2).cross (p4.sub p3)) h1 h2
  ⟨h, clamp_id _ h.1 h.2⟩

/-- the trans-planar arrangement: the four atoms lie in one plane (`direction = 0`) with A and D on opposite sides
    of the central bond (`n1·n2 < 0`), torsion angle 180° -/
def TransPlanar (p1 p2 p3 p4 : V3 ℝ) : Prop := direction p1 p2 p3 p4 = 0 ∧ torsionNum p1 p2 p3 p4 < 0

/-- the full-strength range statement of the property; the code does not meet it (known finding
    `C15|torsion|range|trans-planar|-180`).  What is proved is conditional: for every `T` with `SqrtOK`, `AcosOK` and
    `acos(-1) = π`, `torsion_range_fails_on` gives a quadruple with result `-180`.  `¬ TorsionRangeStatement` itself
    is not proved: that needs one such `T`, and none is constructed in this development. -/
def TorsionRangeStatement : Prop :=
  ∀ (T : Trans ℝ) (pi : ℝ), SqrtOK T → AcosOK T pi → ∀ p1 p2 p3 p4 : V3 ℝ, NonCollinear p1 p2 p3 → NonCollinear p2 p3 p4 →
    -180 < torsionModel T p1 p2 p3 p4 ∧ torsionModel T p1 p2 p3 p4 ≤ 180

/-- `acos` reaches `π` only in the trans-planar arrangement: at `cos φ = -1` there is equality in Cauchy–Schwarz for
    the two normals, and `torsion_circle` leaves nothing for the triple product -/
theorem transPlanar_of_cos (T : Trans ℝ) (hs : SqrtOK T) (p1 p2 p3 p4 : V3 ℝ) (h1 : NonCollinear p1 p2 p3)
    (h2 : NonCollinear p2 p3 p4) (hc : torsionCos T p1 p2 p3 p4 = -1) : TransPlanar p1 p2 p3 p4 := by
  rw [NonCollinear, sq3_cross] at h1 h2
  rw [torsionCos_dots] at hc
  obtain ⟨hneg, hsq⟩ := cos_eq_neg_one T hs h1 h2 hc
  refine ⟨?_, by rwa [torsionNum_eq]⟩
  have hcirc := torsion_circle (p2.sub p1) (p3.sub p2) (p4.sub p3)
  rw [hsq, add_eq_left] at hcirc
  rw [direction_eq]
  rcases mul_eq_zero.mp hcirc with h0 | h0
  · -- `b2 = 0` is excluded by `|b1 × b2|² > 0`
    rw [nSq, h0, mul_zero, zero_sub] at h1
    exact absurd h1 (not_lt.mpr (neg_nonpos.mpr (mul_self_nonneg _)))
  · exact mul_self_eq_zero.mp h0

/-- the range `(-180, 180]` is left only where `acos` returns `π` while the sign expression is not positive -/
theorem signedAngle_range (T : Trans ℝ) (pi : ℝ) (ha : AcosOK T pi) {c d : ℝ} (c1 : -1 ≤ c) (c2 : c ≤ 1)
    (h : c = -1 → 0 < d) : -180 < signedAngle T c d ∧ signedAngle T c d ≤ 180 := by
  obtain ⟨a1, a2⟩ := ha.range c c1 c2
  have d1 := (deg_strictMono ha).monotone a1
  have d2 := (deg_strictMono ha).monotone a2
  rw [deg_zero ha] at d1
  rw [deg_pi ha] at d2
  simp only [signedAngle, clamp_id c c1 c2]
  split
  · exact ⟨by linarith, d2⟩
  · next hd =>
    have d3 := deg_strictMono ha (a2.lt_of_ne fun e => hd (h (ha.top c c1 c2 e)))
    rw [deg_pi ha] at d3
    rw [ha.deg, neg_mul, ← ha.deg]
    exact ⟨by linarith, by linarith⟩

/-- the torsion angle lies in `(-180, 180]` for every non-degenerate quadruple that is not trans-planar.  The extra
    hypothesis excludes exactly the class of the known finding: there `direction = 0` is not `> 0` and the code returns
    `degrees(-π) = -180`. -/
theorem torsion_range_partial (T : Trans ℝ) (pi : ℝ) (hs : SqrtOK T) (ha : AcosOK T pi) (p1 p2 p3 p4 : V3 ℝ)
    (h1 : NonCollinear p1 p2 p3) (h2 : NonCollinear p2 p3 p4) (hntp : ¬ TransPlanar p1 p2 p3 p4) :
    -180 < torsionModel T p1 p2 p3 p4 ∧ torsionModel T p1 p2 p3 p4 ≤ 180 :=
  have hc := (torsion_cos_range T hs p1 p2 p3 p4 h1 h2).1
  signedAngle_range T pi ha hc.1 hc.2 fun e => absurd (transPlanar_of_cos T hs p1 p2 p3 p4 h1 h2 e) hntp

/-- the witness of the known finding: for every admissible `sqrt`, `acos`, `degrees` with `acos(-1) = π` the code's
    result on this trans-planar quadruple is `-180`, outside `(-180, 180]`.
    (Replayed on the implementation in every run: `WITNESS` in harness/props/c15.py.) -/
theorem torsion_range_fails_on (T : Trans ℝ) (pi : ℝ) (hs : SqrtOK T) (ha : AcosOK T pi) (hpi : T.acos (-1) = pi) :
    NonCollinear ⟨1, 0, 0⟩ ⟨0, 0, 0⟩ ⟨0, 0, 1⟩ ∧ NonCollinear ⟨0, 0, 0⟩ ⟨0, 0, 1⟩ ⟨-1, 0, 1⟩
      ∧ TransPlanar ⟨1, 0, 0⟩ ⟨0, 0, 0⟩ ⟨0, 0, 1⟩ ⟨-1, 0, 1⟩
      ∧ torsionModel T ⟨1, 0, 0⟩ ⟨0, 0, 0⟩ ⟨0, 0, 1⟩ ⟨-1, 0, 1⟩ = -180 := by
  have hs1 : T.sqrt 1 = 1 := sqrt_eq_of_sq hs zero_le_one (one_mul 1)
  refine ⟨?_, ?_, ⟨?_, ?_⟩, ?_⟩
  · simp only [NonCollinear, sq3, V3.sub, V3.cross]; norm_num
  · simp only [NonCollinear, sq3, V3.sub, V3.cross]; norm_num
  · simp only [direction, directionCode, V3.sub]; norm_num
  · simp only [torsionNum, V3.sub, V3.cross]; norm_num
  · have hp := ha.pi_pos
    simp only [torsionModel, torsionCos, torsionNum, sq3, direction, directionCode, clampUnit, V3.sub, V3.cross]
    norm_num [hs1, hpi, ha.deg]
    field_simp

/-- the quadruple of the convention witness meets the hypotheses of `torsion_range_partial` -/
example : NonCollinear ⟨1, 0, 0⟩ ⟨0, 0, 0⟩ ⟨0, 0, 1⟩ ∧ NonCollinear ⟨0, 0, 0⟩ ⟨0, 0, 1⟩ ⟨0, 1, 1⟩
    ∧ ¬ TransPlanar ⟨1, 0, 0⟩ ⟨0, 0, 0⟩ ⟨0, 0, 1⟩ ⟨0, 1, 1⟩ := by
  refine ⟨?_, ?_, ?_⟩
  · simp only [NonCollinear, sq3, V3.sub, V3.cross]; norm_num
  · simp only [NonCollinear, sq3, V3.sub, V3.cross]; norm_num
  · rintro ⟨h, _⟩
    simp only [direction, directionCode, V3.sub] at h
    norm_num at h

end real

section distance
variable {K : Type} [Field K]

/-- what is assumed of the cell; `vol`: `V` is the cell volume as `vol_unitcell` computes it -/
structure CellOK (C : Cell K) : Prop where
  a_ne : C.a ≠ 0
  b_ne : C.b ≠ 0
  sg_ne : C.sg ≠ 0
  sg_cg : C.sg * C.sg + C.cg * C.cg = 1
  vol : C.v * C.v = C.a * C.a * (C.b * C.b) * (C.c * C.c)
    * (1 + 2 * C.ca * C.cb * C.cg - C.ca * C.ca - C.cb * C.cb - C.cg * C.cg)

/-- the two entries of the orthogonalisation matrix (`cart`) that are quotients -/
def Cell.m12 (C : Cell K) : K := C.c * (C.ca - C.cb * C.cg) / C.sg

def Cell.m22 (C : Cell K) : K := C.v / (C.a * C.b * C.sg)

theorem cart_eq (C : Cell K) (f : V3 K) :
    cart C f = ⟨f.x * C.a + f.y * (C.b * C.cg) + f.z * (C.c * C.cb), f.y * (C.b * C.sg) + f.z * C.m12, f.z * C.m22⟩ := by
  simp only [cart, mul_zero, zero_add, add_zero]
  rfl

theorem m12_mul_sg {C : Cell K} (h : C.sg ≠ 0) : C.m12 * C.sg = C.c * (C.ca - C.cb * C.cg) := div_mul_cancel₀ _ h

/-- the third column `(c cos β, m12, m22)` of the matrix has length `c`; this is where the volume enters:
    `V² / (a b c)² = sin²β sin²γ − (cos α − cos β cos γ)²` -/
theorem cart_col3 {C : Cell K} (h : CellOK C) : C.m12 * C.m12 + C.m22 * C.m22 = C.c * C.c * (1 - C.cb * C.cb) := by
  obtain ⟨ha, hb, hsg, hsc, hvol⟩ := h
  have hden : C.a * C.b * C.sg ≠ 0 := mul_ne_zero (mul_ne_zero ha hb) hsg
  have e22 : C.m22 * (C.a * C.b * C.sg) = C.v := div_mul_cancel₀ _ hden
  refine mul_right_cancel₀ (mul_ne_zero hden hden) ?_
  linear_combination (C.a * C.b * (C.a * C.b) * (C.m12 * C.sg + C.c * (C.ca - C.cb * C.cg))) * m12_mul_sg hsg
    + (C.m22 * (C.a * C.b * C.sg) + C.v) * e22 + hvol
    - (C.a * C.a * (C.b * C.b) * (C.c * C.c) * (1 - C.cb * C.cb)) * hsc

/-- the orthogonalisation matrix of the code realises the metric tensor: `|M f1 − M f2|² = Δᵀ G Δ` -/
theorem cart_metric (C : Cell K) (h : CellOK C) (f1 f2 : V3 K) :
    sq3 ((cart C f1).sub (cart C f2)) = metricForm C (f1.sub f2) := by
  simp only [sq3, cart_eq, V3.sub, metricForm]
  linear_combination (C.b * C.b * ((f1.y - f2.y) * (f1.y - f2.y))) * h.sg_cg
    + ((f1.z - f2.z) * (f1.z - f2.z)) * cart_col3 h + (2 * C.b * (f1.y - f2.y) * (f1.z - f2.z)) * m12_mul_sg h.sg_ne

/-- `Atoms.distance` (Euclidean distance of the stored Cartesian coordinates) is the distance of the two sites in the
    crystal, `sqrt(Δᵀ G Δ)` -/
theorem named_distance_euclid (T : Trans K) (C : Cell K) (h : CellOK C) (f1 f2 : V3 K) :
    namedDistance T C f1 f2 = specDistance T C f1 f2 :=
  congrArg T.sqrt (cart_metric C h f1 f2)

theorem metric_dist_eq (T : Trans K) (C : Cell K) (f1 f2 : V3 K) : metricDist T C f1 f2 = specDistance T C f1 f2 :=
  congrArg T.sqrt (by simp only [metricRadicand, metricForm, V3.sub]; ring)

/-- both routes to a distance in the code agree: by name (Cartesian) and in the neighbour search (fractional) -/
theorem named_eq_metric (T : Trans K) (C : Cell K) (h : CellOK C) (f1 f2 : V3 K) :
    namedDistance T C f1 f2 = metricDist T C f1 f2 := by
  rw [named_distance_euclid T C h, metric_dist_eq]

end distance

/-- `CellOK` can be met (a cell with oblique γ) -/
example : CellOK ({ a := 3, b := 4, c := 5, ca := 0, cb := 0, cg := 3 / 5, sb := 1, sg := 4 / 5, v := 48 } : Cell ℚ) := by
  refine ⟨?_, ?_, ?_, ?_, ?_⟩ <;> norm_num

section routes

/-- what the `cos α*` route assumes of the cell in addition to `CellOK` -/
structure CellPos (C : Cell ℝ) : Prop where
  a_pos : 0 < C.a
  b_pos : 0 < C.b
  c_pos : 0 < C.c
  sb_pos : 0 < C.sb
  sg_pos : 0 < C.sg
  v_pos : 0 < C.v
  sb_cb : C.sb * C.sb + C.cb * C.cb = 1

/-- `misc.frac_to_cart` (the `cos α*` formulae) and the orthogonal matrix give the same Cartesian coordinates, so an
    atom made by `add_atom()`/`grow()` and an atom parsed from the file text live in one frame and every angle, torsion
    angle and named distance theorem applies to any mixture of them. -/
theorem frac_to_cart_agrees (T : Trans ℝ) (hs : SqrtOK T) (C : Cell ℝ) (h : CellOK C) (hp : CellPos C) (f : V3 ℝ) :
    cartAstar T C f = cart C f := by
  obtain ⟨pa, pb, pc, psb, psg, pv, hsb⟩ := hp
  have hk : 0 < C.c * C.sb := mul_pos pc psb
  have hcs : (C.cb * C.cg - C.ca) / (C.sb * C.sg) * (C.sb * C.sg) = C.cb * C.cg - C.ca :=
    div_mul_cancel₀ _ (mul_pos psb psg).ne'
  have h22 : 0 ≤ C.m22 := div_nonneg pv.le (mul_pos (mul_pos pa pb) psg).le
  simp only [cartAstar, cart_eq, V3.mk.injEq]
  generalize (C.cb * C.cg - C.ca) / (C.sb * C.sg) = cs at hcs ⊢
  have ey : -C.c * C.sb * cs = C.m12 :=
    mul_right_cancel₀ psg.ne' (by linear_combination (-C.c) * hcs - m12_mul_sg psg.ne')
  -- z component: sin α* = V / (a b sin γ) / (c sin β), the non-negative number with the right square
  have ez : T.sqrt (1 - cs * cs) = C.m22 / (C.c * C.sb) := by
    refine sqrt_eq_of_sq hs (div_nonneg h22 hk.le) ?_
    rw [div_mul_div_comm, div_eq_iff (mul_ne_zero hk.ne' hk.ne')]
    linear_combination cart_col3 h - C.c * C.c * hsb + (C.m12 - C.c * C.sb * cs) * ey
  rw [ez, ← ey, mul_div_cancel₀ _ hk.ne']
  exact ⟨by ring, by ring, by ring⟩

theorem cartVia_eq (T : Trans ℝ) (hs : SqrtOK T) (C : Cell ℝ) (h : CellOK C) (hp : CellPos C) (r : Bool) (f : V3 ℝ) :
    cartVia T C r f = cart C f := by
  cases r
  · rfl
  · exact frac_to_cart_agrees T hs C h hp f

/-- `Atoms.distance` is the crystal distance `sqrt(Δᵀ G Δ)` for atoms of any origin -/
theorem named_distance_any_route (T : Trans ℝ) (hs : SqrtOK T) (C : Cell ℝ) (h : CellOK C) (hp : CellPos C)
    (r1 r2 : Bool) (f1 f2 : V3 ℝ) : distanceVia T C r1 r2 f1 f2 = specDistance T C f1 f2 := by
  simp only [distanceVia, cartVia_eq T hs C h hp]
  exact named_distance_euclid T C h f1 f2

end routes

/-- the same cell meets `CellPos` -/
example : CellPos ({ a := 3, b := 4, c := 5, ca := 0, cb := 0, cg := 3 / 5, sb := 1, sg := 4 / 5, v := 48 } : Cell ℝ) := by
  refine ⟨?_, ?_, ?_, ?_, ?_, ?_, ?_⟩ <;> norm_num

section neighbours
variable {K : Type} [Field K] [LT K] [∀ a b : K, Decidable (a < b)]

theorem findAroundLoop_eq (T : Trans K) (C : Cell K) (self : AtomN K) (i : Nat) (dist : K) (part : Int)
    (l : List (AtomN K)) (k : Nat) :
    findAroundLoop T C self i dist part l k
      = filterIdx (fun j a => decide (j ≠ i) && !a.qpeak && decide (a.part = part)
          && decide (specDistance T C self.frac a.frac < dist)) l k := by
  induction l generalizing k with
  | nil => rfl
  | cons a rest ih =>
    simp only [findAroundLoop, filterIdx, ih]
    refine if_congr ?_ rfl rfl
    simp only [metric_dist_eq, Bool.and_eq_true, decide_eq_true_eq, Bool.not_eq_true', ne_comm (a := i)]
    tauto

/-- `find_atoms_around(dist, only_part)` of the atom at position `i` returns exactly the positions of the *other* atoms
    that are no Q-peaks, belong to PART `only_part` and lie closer than `dist`.  (`j ≠ i` is the `at is not self` of
    fixes/C15_2; the unchanged tree's `self != at` compares printed atom lines and also leaves out atoms that print
    alike.) -/
theorem neighbours_spec (T : Trans K) (C : Cell K) (atoms : List (AtomN K)) (i : Nat) (dist : K) (part : Int) :
    findAround T C atoms i dist part = specAround T C atoms i dist part := by
  simp only [findAround, specAround]
  cases atoms[i]? with
  | none => rfl
  | some self => simp only [Option.map_some, findAroundLoop_eq]

end neighbours

theorem filterIdx_eq {α : Type} (p : Nat → α → Bool) (l : List α) (k : Nat) :
    filterIdx p l k = ((l.zipIdx k).filter fun x => p x.2 x.1).map (·.2) := by
  induction l generalizing k with
  | nil => rfl
  | cons a rest ih =>
    simp only [filterIdx, List.zipIdx_cons, List.filter_cons, ih]
    split <;> rfl

/-- this makes `specAround` the set the property describes (in file order, each once: `filterIdx_eq`) -/
theorem mem_filterIdx {α : Type} (p : Nat → α → Bool) (l : List α) (k j : Nat) :
    j ∈ filterIdx p l k ↔ ∃ a, k ≤ j ∧ l[j - k]? = some a ∧ p j a = true := by
  simp only [filterIdx_eq, List.mem_map, List.mem_filter, List.mem_zipIdx_iff_le_and_getElem?_sub, Prod.exists,
    exists_eq_right]
  simp only [and_assoc]

/-! ## the tie to the traced source (`ShelxModel/Extracted/C15Src.lean`, regenerated on every run)

  `extract/trace_c15.py` reads a file with `Shelxfile.read_string` whose numbers are placeholders and calls
  `Atoms.torsion_angle`, `Atoms.angle`, `Atoms.distance`, `Atom.cart_coords` (parsed atom, atom moved with the
  `frac_coords` setter, atom made by `add_atom`) and `Atom.find_atoms_around` of the working tree on the parsed objects.
  What CPython computed is written out as the straight-line definitions `Src.…`; every comparison of a symbolic number
  made on the way is captured with the expressions compared and evaluated to a *region mask* (on which part of the real
  line the traced path is the one taken).  Each `src_…` theorem says: for ALL inputs the traced program IS the
  hand-written model function the property theorems above are about.  Helpers the code was moved into, renamed locals,
  loops over index tables, re-ordered or re-associated sums, `0 < d` for `d > 0`, `-degrees(x)` for `degrees(-x)` all
  yield the same statements (ring normalisation inside `sqrt`/`acos`/`degrees`; `degrees` odd where stated).  A changed
  term of the sign polynomial, `>=` for `>`, a further branch, a different distance formula break them.
  Outside these theorems: rounding, and the two closed ends `cos φ = ±1` of the clamp (−1 is reached exactly on trans-planar
  quadruples, `transPlanar_of_cos`; beyond ±1 by rounding only; sampled by the harness in its planar mode). -/

def flatV {K : Type} (v : V3 K) : List K := [v.x, v.y, v.z]

section src
variable {K : Type} [Field K]

-- for this section only: the traced definitions change with the source, and a tactic that has nothing left to do for
-- one spelling closes the goal for another
set_option linter.unusedTactic false
set_option linter.unreachableTactic false
set_option linter.unnecessarySeqFocus false

/-- the expression whose comparison with 0 decides the sign of `Atoms.torsion_angle` in the working tree is the
    model's `direction` of the four atoms' Cartesian positions -/
theorem src_torsionDir (p1 p2 p3 p4 : V3 K) :
    Src.torsionDir p1.x p1.y p1.z p2.x p2.y p2.z p3.x p3.y p3.z p4.x p4.y p4.z = direction p1 p2 p3 p4 := by
  simp only [Src.torsionDir, direction, directionCode, V3.sub] <;> ring

/-- the sign expression *as the source has it now* is the triple product of the bond vectors -/
theorem src_torsionDir_eq_triple (p1 p2 p3 p4 : V3 K) :
    Src.torsionDir p1.x p1.y p1.z p2.x p2.y p2.z p3.x p3.y p3.z p4.x p4.y p4.z
      = triple (p2.sub p1) (p3.sub p2) (p4.sub p3) :=
  (src_torsionDir p1 p2 p3 p4).trans (direction_eq p1 p2 p3 p4)

/-- the same expression decides on the second traced path -/
theorem src_torsionDirNeg (p1 p2 p3 p4 : V3 K) :
    Src.torsionDirNeg p1.x p1.y p1.z p2.x p2.y p2.z p3.x p3.y p3.z p4.x p4.y p4.z = direction p1 p2 p3 p4 := by
  simp only [Src.torsionDirNeg, direction, directionCode, V3.sub] <;> ring

/-- what `torsion_angle` returns on the path of a positive sign expression (clamp not acting) -/
theorem src_torsionPos (T : Trans K) (p1 p2 p3 p4 : V3 K) :
    Src.torsionPos T.acos T.deg T.sqrt p1.x p1.y p1.z p2.x p2.y p2.z p3.x p3.y p3.z p4.x p4.y p4.z
      = T.deg (T.acos (torsionCos T p1 p2 p3 p4)) := by
  simp only [Src.torsionPos, torsionCos, torsionNum, sq3, V3.sub, V3.cross] <;> try ring_nf

set_option linter.unusedVariables false in -- `hdeg` is idle for the spelling `degrees(-ang)`
/-- … and on the other path.  `degrees` odd: the source may negate before or after it. -/
theorem src_torsionNeg (T : Trans K) (hdeg : ∀ x, T.deg (-x) = -T.deg x) (p1 p2 p3 p4 : V3 K) :
    Src.torsionNeg T.acos T.deg T.sqrt p1.x p1.y p1.z p2.x p2.y p2.z p3.x p3.y p3.z p4.x p4.y p4.z
      = T.deg (-(T.acos (torsionCos T p1 p2 p3 p4))) := by
  simp only [Src.torsionNeg, torsionCos, torsionNum, sq3, V3.sub, V3.cross] <;> (try ring_nf) <;> (try simp only [hdeg])
    <;> (try ring_nf)

theorem src_angle (T : Trans K) (p1 p2 p3 : V3 K) :
    Src.angle T.acos T.deg T.round9 T.sqrt p1.x p1.y p1.z p2.x p2.y p2.z p3.x p3.y p3.z = angleModel T p1 p2 p3 := by
  simp only [Src.angle, angleModel, vecAngle, vecCos, V3.dot, V3.normSq, V3.sub] <;> try ring_nf

theorem src_namedDistance (T : Trans K) (p q : V3 K) :
    Src.namedDistance T.sqrt p.x p.y p.z q.x q.y q.z = euclid T p q := by
  simp only [Src.namedDistance, euclid, V3.sub] <;> try ring_nf

/-- the cell of the model with the volume the source's matrix uses: `a b c · w`, `w` the one square root it takes -/
def cellOfRoot (C : Cell K) (w : K) : Cell K := { C with v := C.a * C.b * C.c * w }

theorem src_atomCart (C : Cell K) (w : K) (f : V3 K) :
    Src.atomCart C.a C.b C.c C.ca C.cb C.cg C.sg w f.x f.y f.z = flatV (cart (cellOfRoot C w) f) := by
  simp only [Src.atomCart, cart, cellOfRoot, flatV] <;> try ring_nf

theorem src_movedCart (C : Cell K) (w : K) (f : V3 K) :
    Src.movedCart C.a C.b C.c C.ca C.cb C.cg C.sg w f.x f.y f.z = flatV (cart (cellOfRoot C w) f) := by
  simp only [Src.movedCart, cart, cellOfRoot, flatV] <;> try ring_nf

/-- the radicand of that square root; with `w² =` this, `cellOfRoot C w` meets `CellOK.vol` -/
theorem src_volRadicand (C : Cell K) :
    Src.volRadicand C.a C.b C.c C.ca C.cb C.cg = 1 + 2 * C.ca * C.cb * C.cg - C.ca * C.ca - C.cb * C.cb - C.cg * C.cg := by
  simp only [Src.volRadicand] <;> ring

theorem cellOfRoot_vol (C : Cell K) (w : K) (hw : w * w = Src.volRadicand C.a C.b C.c C.ca C.cb C.cg) :
    (cellOfRoot C w).v * (cellOfRoot C w).v = C.a * C.a * (C.b * C.b) * (C.c * C.c)
      * (1 + 2 * C.ca * C.cb * C.cg - C.ca * C.ca - C.cb * C.cb - C.cg * C.cg) := by
  rw [← src_volRadicand, ← hw]; simp only [cellOfRoot]; ring

theorem src_addedCart (T : Trans K) (C : Cell K) (f : V3 K) :
    Src.addedCart T.sqrt C.a C.b C.c C.ca C.cb C.cg C.sb C.sg f.x f.y f.z = flatV (cartAstar T C f) := by
  simp only [Src.addedCart, cartAstar, flatV] <;> try ring_nf

/-- the number `find_atoms_around` compares with `dist` is `metricDist` of the two atoms -/
theorem src_aroundDist (T : Trans K) (C : Cell K) (f1 f2 : V3 K) :
    Src.aroundDist T.sqrt C.a C.b C.c C.ca C.cb C.cg f1.x f1.y f1.z f2.x f2.y f2.z = metricDist T C f1 f2 := by
  simp only [Src.aroundDist, metricDist, metricRadicand, V3.sub] <;> try ring_nf

end src

theorem direction_eq_src {K : Type} [Field K] (p1 p2 p3 p4 : V3 K) :
    direction p1 p2 p3 p4 = Src.torsionDir p1.x p1.y p1.z p2.x p2.y p2.z p3.x p3.y p3.z p4.x p4.y p4.z :=
  (src_torsionDir p1 p2 p3 p4).symm

/-- region masks of the comparisons on the traced paths (extract/trace_c15.py `regions`): for the sign expression bit 0
    is `< 0`, bit 1 `= 0`, bit 2 `> 0`; for the `acos` argument bit 2 is the open interval `(-1, 1)` -/
def torsionPathsOK : List Nat → Bool
  | [pos, neg, cpos, cneg] => pos == 4 && neg == 3 && cpos &&& 4 == 4 && cneg &&& 4 == 4
  | _ => false

/-- the first traced path of `torsion_angle` is taken exactly when the sign expression is `> 0`, the second exactly
    when it is `= 0` or `< 0` (the model's `if 0 < direction … else …`; `>=` for `>` would give `[6, 1, …]`), and both
    are valid for every `acos` argument strictly between -1 and 1 -/
theorem src_torsionPaths : torsionPathsOK (Src.torsionPaths (K := Nat)) = true := by decide

/-- an atom passes the distance test of `find_atoms_around` exactly when the compared number is `< dist` (mask 1), and
    fails it when it is `= dist` or `> dist` (mask 6) -/
theorem src_aroundPaths : Src.aroundPaths (K := Nat) = [1, 6] := by decide

/-- the program the traced paths and their path conditions describe, put together by hand: that the first path is the
    one taken exactly when the sign expression is `> 0` is what the masks `[4, 3, …]` of `src_torsionPaths` say, but
    this `if` is not derived from them in Lean -/
noncomputable def srcTorsion (T : Trans ℝ) (p1 p2 p3 p4 : V3 ℝ) : ℝ :=
  if 0 < Src.torsionDir p1.x p1.y p1.z p2.x p2.y p2.z p3.x p3.y p3.z p4.x p4.y p4.z
  then Src.torsionPos T.acos T.deg T.sqrt p1.x p1.y p1.z p2.x p2.y p2.z p3.x p3.y p3.z p4.x p4.y p4.z
  else Src.torsionNeg T.acos T.deg T.sqrt p1.x p1.y p1.z p2.x p2.y p2.z p3.x p3.y p3.z p4.x p4.y p4.z

/-- `Atoms.torsion_angle` of the working tree, as traced, is `torsionModel` on every quadruple whose `acos` argument
    lies strictly inside `(-1, 1)`.  (`torsion_cos_range` gives `[-1, 1]` for non-degenerate quadruples; that the end
    `-1` is reached by planar ones only is `transPlanar_of_cos`, for `+1` it is not proved.) -/
theorem src_torsion (T : Trans ℝ) (hdeg : ∀ x, T.deg (-x) = -T.deg x) (p1 p2 p3 p4 : V3 ℝ)
    (h1 : -1 < torsionCos T p1 p2 p3 p4) (h2 : torsionCos T p1 p2 p3 p4 < 1) :
    srcTorsion T p1 p2 p3 p4 = torsionModel T p1 p2 p3 p4 := by
  simp only [srcTorsion, torsionModel, src_torsionDir, src_torsionPos, src_torsionNeg T hdeg, clamp_id _ h1.le h2.le]

end Shelx.C15
