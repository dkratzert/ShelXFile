/-
  C06 — property theorems (model and specification: ShelxModel/C06.lean). Lemmas/C06Text has the facts about the
  specification side alone, Lemmas/C06Loop the loop of `textwrap` on any list of runs; here they meet the chunks of a
  line, the continuation format of `wrap_line`, the writer and the multi-line printers.

  Quantified over ALL instructions `l : List Char` (any number of tokens, any token lengths, any runs of blanks);
  the wrap width, indent, suffix and separator are the constants the translator reads off `misc.wrap_line` on every
  run (`Cfg.extracted`); `consts_ok` is what an edited constant breaks.

  Hypotheses: `noNL` — the writer splits at '\n' before it wraps, so `wrap_line` never sees one; `endOk` — the
  instruction does not itself end in '=' (such a line is not a complete instruction in a SHELXL file; the real code
  returns it with the dangling mark, checked by the harness in the correspondence stream only); `noLongTok` — no token is
  longer than `width - len(indent)` = 75 characters: such a token cannot be kept whole on a continuation line, the code
  splits it (`break_long_words`), `wrap_tokens_fails_on_long_token` shows the statement is false without it, and
  `wrap_nonblank` states what survives. White space other than the blank (tabs, which textwrap expands) is outside
  the model's domain (harness assumption).

  Second half of the property (every logical line of `write (edit* (parse f))` is an instruction, atom or comment with
  its parameters): proved here per printer only (`fvar_lines_valid`, `sfac_line_valid`). The two defects found there — a
  bare number line after an edit in front of the FVAR block, a bare `SFAC ` for explicit scattering factors — were not
  in `wrap_line` and are repaired in the repository (`fixes/C04_1`, `fixes/C01_1`); `fvar_value_alone_is_bare` and
  `sfac_line_fails_on_empty` say what those lines are to the specification. Open: the finding
  `…mark-line>80-by-blanks`, stated and witnessed at `WriteItemTokensStatement`; its twin `…-by-comment` (a '!' comment
  behind the mark) is invisible to `logical`, which knows no comments, and is observed by the harness only.
-/
import ShelxProps.Lemmas.C06Loop

namespace Shelx.C06

theorem chunks_flatten (l : List Char) : (chunks l).flatten = l := by
  induction l with
  | nil => rfl
  | cons c cs ih =>
    simp only [chunks]
    rcases h : chunks cs with _ | ⟨(_ | ⟨d, ds⟩), rest⟩ <;> rw [h] at ih <;> simp only
    · simp [← ih]
    · simp [← ih]
    · split <;> simp [← ih]

theorem chunks_runs (l : List Char) : Runs (chunks l) := by
  induction l with
  | nil => trivial
  | cons c cs ih =>
    have hc : AllBlank [c] ∨ NoBlank [c] :=
      (Decidable.em (c = ' ')).imp List.forall_mem_singleton.mpr List.forall_mem_singleton.mpr
    simp only [chunks]
    rcases h : chunks cs with _ | ⟨(_ | ⟨d, ds⟩), rest⟩ <;> rw [h] at ih <;> simp only
    · exact ⟨by simp, hc.imp_right fun h => ⟨h, by simp⟩, trivial⟩
    · exact absurd rfl ih.1
    · obtain ⟨_, hd, hrest⟩ := ih
      split
      · rename_i heq
        rw [Bool.eq_iff_iff, beq_iff_eq, beq_iff_eq] at heq
        refine ⟨by simp, hd.imp (fun hb => ?_) (fun hn => ⟨?_, hn.2⟩), hrest⟩
        · exact allBlank_cons.mpr ⟨heq.mpr (allBlank_cons.mp hb).1, hb⟩
        · exact noBlank_cons.mpr ⟨mt heq.mp (noBlank_cons.mp hn.1).1, hn.1⟩
      · -- if `c` is not a blank, `d` is one
        rename_i hne
        rw [Bool.eq_iff_iff, beq_iff_eq, beq_iff_eq] at hne
        refine ⟨by simp, hc.imp_right fun h => ⟨h, ?_⟩, by simp, hd, hrest⟩
        have hcb : c ≠ ' ' := (noBlank_cons.mp h).1
        have hdb : d = ' ' := Decidable.byContradiction fun hd => hne ⟨(absurd · hcb), (absurd · hd)⟩
        intro b hb
        obtain rfl : d :: ds = b := by simpa using hb
        exact hd.resolve_right fun hn => (noBlank_cons.mp hn.1).1 hdb

theorem chunks_short (W : Nat) (l : List Char) (h : noLongTok W l = true) : Short W (chunks l) := by
  intro ch hm
  obtain ⟨hne, hcl⟩ := (chunks_runs l).mem ch hm
  refine hcl.imp_right fun hn => ?_
  have ht : ch ∈ tokens l := by
    rw [← chunks_flatten l, tokens_flatten (chunks_runs l)]
    exact List.mem_flatMap.mpr ⟨ch, hm, by simp [tokens_of_tok ch hne hn]⟩
  simpa using List.all_eq_true.mp h ch ht

theorem rawPieces_spec (cfg : Cfg) (l : List Char) (h1 : cfg.indent.length < cfg.width) :
    (rawPieces cfg l).flatten = l ∧
      (∀ p ps, rawPieces cfg l = p :: ps →
        p ≠ [] ∧ p.length ≤ cfg.width ∧ ∀ q ∈ ps, q.length ≤ cfg.width - cfg.indent.length) ∧
      (noLongTok (cfg.width - cfg.indent.length) l = true → (rawPieces cfg l).flatMap tokens = tokens l) := by
  have h := wrapLoop_spec (cfg.width - cfg.indent.length) (by omega) (l.length + 1) cfg.width (chunks l) (by omega)
    (chunks_runs l) (by rw [chunks_flatten]; omega)
  rw [chunks_flatten] at h
  exact ⟨h.1, h.2.1, fun hl => h.2.2 _ (by omega) (Nat.le_refl _) (chunks_short _ l hl)⟩

/-- the physical lines `wrap_line` makes of the pieces `p :: qs` -/
def phys (p : List Char) : List (List Char) → List (List Char)
  | [] => [p]
  | q :: qs => (p ++ [' ', '=']) :: phys (' ' :: q) qs

/-- the logical line the lexer makes of them -/
def joined (p : List Char) : List (List Char) → List Char
  | [] => p
  | q :: qs => p ++ ' ' :: joined (' ' :: q) qs

theorem physLines_joinPieces (cfg : Cfg) (hs : cfg.suffix = [' ', '=', '\n']) (hsep : cfg.sep = [' '])
    (qs : List (List Char)) (p : List Char) (h : '\n' ∉ joined p qs) :
    physLines (joinPieces cfg (p :: qs)) = phys p qs := by
  induction qs generalizing p with
  | nil => exact splitOnC_not_mem _ _ h
  | cons q qs ih =>
    rw [joined, List.mem_append, List.mem_cons, not_or, not_or] at h
    have e : joinPieces cfg (p :: q :: qs) = (p ++ [' ', '=']) ++ '\n' :: joinPieces cfg ((' ' :: q) :: qs) := by
      cases qs <;> simp [joinPieces, hs, hsep]
    rw [phys, ← ih (' ' :: q) h.2.2, physLines, e, splitOnC_append_sep, splitOnC_not_mem _ _ (by simp [h.1])]
    rfl

theorem phys_eq_cons (p : List Char) (qs : List (List Char)) : ∃ s ys, phys p qs = (p ++ s) :: ys := by
  cases qs with
  | nil => exact ⟨[], [], by rw [phys, List.append_nil]⟩
  | cons q qs => exact ⟨_, _, rfl⟩

theorem phys_len (M : Nat) (qs : List (List Char)) (p : List Char) (hp : p.length + 2 ≤ M)
    (hqs : ∀ q ∈ qs, q.length + 3 ≤ M) : ∀ pl ∈ phys p qs, pl.length ≤ M := by
  induction qs generalizing p with
  | nil => simp [phys]; omega
  | cons q qs ih =>
    rw [List.forall_mem_cons] at hqs
    rw [phys, List.forall_mem_cons]
    exact ⟨by simpa using hp, ih (' ' :: q) (by simp; omega) hqs.2⟩

theorem phys_shape (qs : List (List Char)) (p : List Char) : shapeOk (phys p qs) = true := by
  induction qs generalizing p with
  | nil => rfl
  | cons q qs ih =>
    have h := ih (' ' :: q)
    obtain ⟨s, ys, hy⟩ := phys_eq_cons (' ' :: q) qs
    simp only [shapeOk, phys, hy, List.dropLast_cons_cons, List.all_cons, List.tail_cons, Bool.and_eq_true] at h ⊢
    exact ⟨⟨by simp [endsWithEq], h.1⟩, rfl, h.2⟩

/-- The lexer reads the block `phys p qs` as the one logical line `joined p qs` (induction on `qs`).
    `X`: the lines of the parts behind, for `unwrap_written`; `wrapLine_logical`, hence `wrap_tokens`, takes `X = []`. -/
theorem unwrap_phys (qs : List (List Char)) (p : List Char) (X : List (List Char)) (h : flagged (joined p qs) = false) :
    unwrapLines (phys p qs ++ X) = (unwrapLines X).map (joined p qs :: ·) := by
  induction qs generalizing p with
  | nil => exact unwrapLines_unflagged p X h
  | cons q qs ih =>
    rw [phys, List.cons_append, unwrapLines_flagged _ _ (flagged_mark p), body_mark,
      ih (' ' :: q) (flagged_suffix (p ++ [' ']) (by simpa [joined] using h))]
    cases unwrapLines X <;> simp [glue, joined]

theorem joined_hom {β : Type} {f : List Char → List β} (hf : BlankHom f) (qs : List (List Char)) (p : List Char) :
    f (joined p qs) = f p ++ qs.flatMap f := by
  induction qs generalizing p with
  | nil => simp [joined]
  | cons q qs ih => rw [joined, hf.append_blank, ih, hf.blank_cons, List.flatMap_cons]

theorem joined_head (p : List Char) (qs : List (List Char)) (hp : p ≠ []) : (joined p qs).head? = p.head? := by
  cases qs <;> simp [joined, List.head?_append, List.head?_eq_some_head hp]

def cfgOk (cfg : Cfg) : Bool :=
  cfg.suffix == [' ', '=', '\n'] && cfg.sep == [' '] && cfg.indent.all (· == ' ') &&
    decide (cfg.indent.length < cfg.width) && decide (cfg.sep.length + cfg.width + 2 ≤ 80) && decide (cfg.shortMax ≤ 80)

theorem cfgOk_spec (cfg : Cfg) (h : cfgOk cfg = true) :
    cfg.suffix = [' ', '=', '\n'] ∧ cfg.sep = [' '] ∧ AllBlank cfg.indent ∧ cfg.indent.length < cfg.width ∧
      cfg.width + 3 ≤ 80 ∧ cfg.shortMax ≤ 80 := by
  simp only [cfgOk, Bool.and_eq_true, beq_iff_eq, decide_eq_true_eq, List.all_eq_true] at h
  obtain ⟨⟨⟨⟨⟨h1, h2⟩, h3⟩, h4⟩, h5⟩, h6⟩ := h
  rw [h2, List.length_singleton] at h5
  exact ⟨h1, h2, h3, h4, by omega, h6⟩

theorem noNL_spec (l : List Char) (h : noNL l = true) : '\n' ∉ l := by
  simpa [noNL] using h

theorem wrapLine_short {cfg : Cfg} {l : List Char} (h : l.length ≤ cfg.shortMax) : wrapLine cfg l = l := if_pos h

/-- `wrap_line` writes `l` as the continuation format of the pieces `p :: qs` -/
structure WrittenAs (cfg : Cfg) (l p : List Char) (qs : List (List Char)) : Prop where
  lines : physLines (wrapLine cfg l) = phys p qs
  width : ∀ pl ∈ phys p qs, pl.length ≤ 80
  head_eq : (joined p qs).head? = l.head?
  nonblank_eq : nonblank (joined p qs) = nonblank l
  tokens_eq : l.length ≤ cfg.shortMax ∨ noLongTok (cfg.width - cfg.indent.length) l = true →
    tokens (joined p qs) = tokens l

/-- What `wrap_line` writes for a line, short or long, is the continuation format of some pieces (of the line itself if it
    is short). -/
theorem wrapLine_spec (cfg : Cfg) (hc : cfgOk cfg = true) (l : List Char) (hnl : '\n' ∉ l) :
    ∃ p qs, WrittenAs cfg l p qs := by
  obtain ⟨hs, hsep, hib, hlt, hw, hsm⟩ := cfgOk_spec cfg hc
  by_cases hshort : l.length ≤ cfg.shortMax
  · refine ⟨l, [], ?_, List.forall_mem_singleton.mpr (Nat.le_trans hshort hsm), rfl, rfl, fun _ => rfl⟩
    rw [wrapLine_short hshort]
    exact splitOnC_not_mem _ _ hnl
  · obtain ⟨hfl, hlen, htok⟩ := rawPieces_spec cfg l hlt
    rcases hR : rawPieces cfg l with _ | ⟨p, rs⟩
    · rw [hR] at hfl
      rw [← hfl] at hshort
      exact absurd (Nat.zero_le _) hshort
    · obtain ⟨hp, hpl, hrs⟩ := hlen p rs hR
      rw [hR] at hfl
      have key : ∀ {β : Type} {f : List Char → List β}, BlankHom f →
          f (joined p (rs.map (cfg.indent ++ ·))) = (p :: rs).flatMap f := fun hf => by
        rw [joined_hom hf, List.flatMap_cons]
        simp only [List.flatMap_map, hf.blanks_append hib]
      have hnb : nonblank (joined p (rs.map (cfg.indent ++ ·))) = nonblank l := by
        rw [key nonblank_hom, ← nonblank_flatten, hfl]
      refine ⟨p, rs.map (cfg.indent ++ ·), ?_, ?_, ?_, hnb, ?_⟩
      · simp only [wrapLine, hshort, if_false, pieces, hR, addIndent]
        refine physLines_joinPieces cfg hs hsep _ _ ?_
        rwa [← mem_nonblank (by decide), hnb, mem_nonblank (by decide)]
      · refine phys_len 80 _ _ (by omega) (List.forall_mem_map.mpr fun r hr => ?_)
        have := hrs r hr
        rw [List.length_append]
        omega
      · rw [joined_head _ _ hp, ← hfl, List.flatten_cons, List.head?_append, List.head?_eq_some_head hp,
          Option.some_or]
      · rintro (h | h)
        · exact absurd h hshort
        · rw [key tokens_hom, ← hR, htok h]

/-- No physical line that `wrap_line` writes is longer than 80 columns. -/
theorem wrap_width_cfg (cfg : Cfg) (hc : cfgOk cfg = true) (l : List Char) (hnl : noNL l = true) :
    ∀ pl ∈ physLines (wrapLine cfg l), pl.length ≤ 80 := by
  obtain ⟨p, qs, h⟩ := wrapLine_spec cfg hc l (noNL_spec l hnl)
  rw [h.lines]
  exact h.width

/-- Every physical line but the last ends in `" ="`, every continuation line begins with a blank. -/
theorem wrap_shape_cfg (cfg : Cfg) (hc : cfgOk cfg = true) (l : List Char) (hnl : noNL l = true) :
    shapeOk (physLines (wrapLine cfg l)) = true := by
  obtain ⟨p, qs, h⟩ := wrapLine_spec cfg hc l (noNL_spec l hnl)
  rw [h.lines]
  exact phys_shape qs p

/-- What `wrap_line` writes for `l` is one logical line `j` to the lexer, with the non-blank characters of `l` and, if no
    token is over-long, its tokens: `wrap_nonblank_cfg` and `wrap_tokens_cfg` are the two halves. -/
theorem wrapLine_logical (cfg : Cfg) (hc : cfgOk cfg = true) (l : List Char) (hnl : noNL l = true) (he : endOk l = true) :
    ∃ j, logical (wrapLine cfg l) = some [j] ∧ nonblank j = nonblank l ∧
      (noLongTok (cfg.width - cfg.indent.length) l = true → tokens j = tokens l) := by
  obtain ⟨p, qs, h⟩ := wrapLine_spec cfg hc l (noNL_spec l hnl)
  have hf : flagged (joined p qs) = false := by simpa [endOk, flagged_congr h.nonblank_eq] using he
  refine ⟨joined p qs, ?_, h.nonblank_eq, fun hl => h.tokens_eq (Or.inr hl)⟩
  have := unwrap_phys qs p [] hf
  rw [List.append_nil, ← h.lines] at this
  exact this

/-- Joining the continuation lines gives back exactly the token sequence of the instruction
    (hence every break is between two tokens). -/
theorem wrap_tokens_cfg (cfg : Cfg) (hc : cfgOk cfg = true) (l : List Char) (hnl : noNL l = true) (he : endOk l = true)
    (hl : noLongTok (cfg.width - cfg.indent.length) l = true) :
    (logical (wrapLine cfg l)).map (·.map tokens) = some [tokens l] := by
  obtain ⟨j, hj, _, ht⟩ := wrapLine_logical cfg hc l hnl he
  rw [hj, ← ht hl]
  rfl

/-- For every instruction, also one with over-long tokens: the non-blank characters of the
    joined continuation lines are those of the instruction, in order. -/
theorem wrap_nonblank_cfg (cfg : Cfg) (hc : cfgOk cfg = true) (l : List Char) (hnl : noNL l = true) (he : endOk l = true) :
    (logical (wrapLine cfg l)).map (·.map nonblank) = some [nonblank l] := by
  obtain ⟨j, hj, hn, _⟩ := wrapLine_logical cfg hc l hnl he
  rw [hj, ← hn]
  rfl

/-- The constants read off `misc.wrap_line` are those the model is built on: `cfgOk` (suffix `' =\n'`, separator `' '`, a
    blank indent shorter than the width, `len(sep) + width + len(' =') ≤ 80`, `shortMax ≤ 80`) and the `textwrap.wrap`
    options `drop_whitespace=False`, `break_on_hyphens=False`, `break_long_words=True`, `initial_indent=''`.
    An edited constant in `wrap_line` makes this `decide` fail. -/
theorem consts_ok :
    cfgOk Cfg.extracted = true ∧ Extracted.Wrap.dropWhitespace = false ∧ Extracted.Wrap.breakOnHyphens = false ∧
      Extracted.Wrap.breakLongWords = true ∧ Extracted.Wrap.initialIndent = [] := by decide

theorem wrap_width (l : List Char) (hnl : noNL l = true) : ∀ pl ∈ physLines (wrapLine Cfg.extracted l), pl.length ≤ 80 :=
  wrap_width_cfg _ consts_ok.1 l hnl

theorem wrap_shape (l : List Char) (hnl : noNL l = true) : shapeOk (physLines (wrapLine Cfg.extracted l)) = true :=
  wrap_shape_cfg _ consts_ok.1 l hnl

theorem wrap_tokens (l : List Char) (hnl : noNL l = true) (he : endOk l = true)
    (hl : noLongTok (Cfg.extracted.width - Cfg.extracted.indent.length) l = true) :
    (logical (wrapLine Cfg.extracted l)).map (·.map tokens) = some [tokens l] :=
  wrap_tokens_cfg _ consts_ok.1 l hnl he hl

theorem wrap_nonblank (l : List Char) (hnl : noNL l = true) (he : endOk l = true) :
    (logical (wrapLine Cfg.extracted l)).map (·.map nonblank) = some [nonblank l] :=
  wrap_nonblank_cfg _ consts_ok.1 l hnl he

/-- a restraint with 24 atom names meets all hypotheses -/
def sampleLine : List Char :=
  "SADI C1 C2 C3 C4 C5 C6 C7 C8 C9 C10 C11 C12 C13 C14 C15 C16 C17 C18_$1 C19_$1 C20_2 C21 C22 C23 C24".toList

example : noNL sampleLine = true ∧ endOk sampleLine = true ∧ noLongTok 75 sampleLine = true ∧ sampleLine.length = 99 ∧
    (physLines (wrapLine Cfg.extracted sampleLine)).length = 2 := by
  -- a literal is `String.ofList` of its characters by definition; this way the kernel need not decode its UTF-8 bytes
  unfold sampleLine
  rw [String.toList_ofList]
  decide +kernel

/-- the configuration the repository had before the repair (`maxlen = 79`, wrapped at 79) -/
def cfgBefore : Cfg := { shortMax := 78, width := 79, indent := [' ', ' '], suffix := [' ', '=', '\n'], sep := [' '] }

/-- with the old constants the width property is false: the first physical line of this `REM` has 81 columns -/
theorem wrap_width_fails_on_79 :
    ¬ ∀ l : List Char, noNL l = true → ∀ pl ∈ physLines (wrapLine cfgBefore l), pl.length ≤ 80 := by
  intro h
  have := h ("REM ".toList ++ List.replicate 75 'x' ++ " yyyyy zz".toList) (by decide +kernel)
    ("REM ".toList ++ List.replicate 75 'x' ++ " =".toList) (by decide +kernel)
  exact absurd this (by decide +kernel)

/-- `noLongTok` cannot be dropped from `wrap_tokens`: a token of 100 characters is split -/
theorem wrap_tokens_fails_on_long_token :
    ¬ ∀ l : List Char, noNL l = true → endOk l = true →
      (logical (wrapLine Cfg.extracted l)).map (·.map tokens) = some [tokens l] := by
  intro h
  have := h ("REM ".toList ++ List.replicate 100 'x') (by decide +kernel) (by decide +kernel)
  exact absurd this (by decide +kernel)

theorem groupsAux_spec {α} (n : Nat) (hn : 1 ≤ n) (fuel : Nat) (l : List α) (h : l.length ≤ fuel) :
    (groupsAux n fuel l).flatten = l ∧ ∀ g ∈ groupsAux n fuel l, g ≠ [] ∧ g.length ≤ n := by
  obtain ⟨k, rfl⟩ := Nat.exists_eq_add_one_of_ne_zero (Nat.ne_of_gt hn)
  induction fuel generalizing l with
  | zero =>
    obtain rfl := List.length_eq_zero_iff.mp (Nat.le_zero.mp h)
    exact ⟨rfl, fun _ h => nomatch h⟩
  | succ fuel ih =>
    cases l with
    | nil => exact ⟨rfl, fun _ h => nomatch h⟩
    | cons a l =>
      obtain ⟨i1, i2⟩ := ih (l.drop k) (Nat.le_trans (List.drop_sublist k l).length_le (Nat.le_of_succ_le_succ h))
      rw [groupsAux, List.drop_succ_cons, List.flatten_cons, i1, List.take_succ_cons, List.cons_append,
        List.take_append_drop, List.forall_mem_cons]
      exact ⟨rfl, ⟨List.cons_ne_nil _ _, Nat.succ_le_succ (List.length_take_le k l)⟩, i2⟩

def IsParam (v : List Char) : Prop := v ≠ [] ∧ NoBlank v

theorem tokens_joinWith (sep : List Char) (hs : AllBlank sep) (hne : sep ≠ []) (g : List (List Char))
    (hg : ∀ v ∈ g, IsParam v) : tokens (joinWith sep g) = g := by
  obtain ⟨c, sep', rfl⟩ := List.exists_cons_of_ne_nil hne
  obtain ⟨rfl, hs'⟩ := allBlank_cons.mp hs
  induction g with
  | nil => exact tokens_hom.nil
  | cons p tl ih =>
    rw [List.forall_mem_cons] at hg
    cases tl with
    | nil => exact tokens_of_tok p hg.1.1 hg.1.2
    | cons q r =>
      rw [joinWith, List.append_assoc, List.cons_append, tokens_hom.append_blank, tokens_hom.blanks_append hs', ih hg.2,
        tokens_of_tok p hg.1.1 hg.1.2]
      rfl

/-- a line prefix such as `'FVAR   '`: the keyword followed by blanks -/
def prefixOk (kw pre : List Char) : Bool := tokens pre == [kw] && pre.getLast? == some ' '

def sepOk (sep : List Char) : Bool := sep ≠ [] && sep.all (· == ' ')

theorem tokens_prefixed (kw pre sep : List Char) (hp : prefixOk kw pre = true) (hs : sepOk sep = true)
    (g : List (List Char)) (hg : ∀ v ∈ g, IsParam v) : tokens (pre ++ joinWith sep g) = kw :: g := by
  simp only [prefixOk, Bool.and_eq_true, beq_iff_eq] at hp
  simp only [sepOk, Bool.and_eq_true, decide_eq_true_eq, List.all_eq_true, beq_iff_eq] at hs
  have hcut : CutAtBlank pre (joinWith sep g) := fun x hx _ _ =>
    Or.inl (Option.mem_some_iff.mp (hp.2 ▸ hx)).symm
  rw [tokens_append_of_cutAtBlank _ _ hcut, hp.1, tokens_joinWith sep hs.2 hs.1 g hg]
  rfl

/-- Every line `FVARs.__str__` prints is the keyword `FVAR` followed by at least one and at
    most `n` values, and the values of all lines together are the list: no bare number line, no `FVAR` without a value. -/
theorem fvar_lines_valid_gen (n : Nat) (kw pre sep : List Char) (hn : 1 ≤ n) (hp : prefixOk kw pre = true)
    (hs : sepOk sep = true) (vals : List (List Char)) (hv : ∀ v ∈ vals, IsParam v) :
    (∀ ln ∈ fvarLines n pre sep vals, ∃ g, g ≠ [] ∧ g.length ≤ n ∧ tokens ln = kw :: g) ∧
      (fvarLines n pre sep vals).flatMap (fun ln => (tokens ln).drop 1) = vals := by
  obtain ⟨hf, he⟩ := groupsAux_spec n hn vals.length vals (Nat.le_refl _)
  unfold fvarLines groups
  generalize groupsAux n vals.length vals = gs at he hf
  have ht : ∀ g ∈ gs, tokens (pre ++ joinWith sep g) = kw :: g := fun g hg =>
    tokens_prefixed kw pre sep hp hs g fun v hv' => hv v (hf ▸ List.mem_flatten.mpr ⟨g, hg, hv'⟩)
  constructor
  · intro ln hln
    obtain ⟨g, hg, rfl⟩ := List.mem_map.mp hln
    exact ⟨g, (he g hg).1, (he g hg).2, ht g hg⟩
  · rw [← hf, List.flatMap_map, List.flatMap_def, List.map_congr_left (g := id) fun g hg => by rw [ht g hg]; rfl,
      List.map_id]

theorem multi_consts_ok :
    (1 ≤ Extracted.Wrap.fvarChunk) ∧ prefixOk "FVAR".toList Extracted.Wrap.fvarPrefix = true ∧
      sepOk Extracted.Wrap.fvarSep = true ∧ prefixOk "SFAC".toList Extracted.Wrap.sfacPrefix = true ∧
      sepOk Extracted.Wrap.sfacSep = true := by decide +kernel

theorem fvar_lines_valid (vals : List (List Char)) (hv : ∀ v ∈ vals, IsParam v) :
    (∀ ln ∈ fvarLines Extracted.Wrap.fvarChunk Extracted.Wrap.fvarPrefix Extracted.Wrap.fvarSep vals,
        ∃ g, g ≠ [] ∧ g.length ≤ Extracted.Wrap.fvarChunk ∧ tokens ln = "FVAR".toList :: g) ∧
      (fvarLines Extracted.Wrap.fvarChunk Extracted.Wrap.fvarPrefix Extracted.Wrap.fvarSep vals).flatMap
        (fun ln => (tokens ln).drop 1) = vals :=
  fvar_lines_valid_gen _ _ _ _ multi_consts_ok.1 multi_consts_ok.2.1 multi_consts_ok.2.2.1 vals hv

-- free variables as the printer gets them meet the hypothesis
example : (∀ v ∈ ["0.31437".toList, "0.77327".toList], IsParam v) := by
  rw [String.toList_ofList, String.toList_ofList]
  unfold IsParam NoBlank
  decide

/-- With at least one element `_extend_sfac_text` prints the keyword `SFAC` followed by the elements. `els ≠ []` cannot
    be dropped (`sfac_line_fails_on_empty`); `SFACTable.__repr__` calls it with a non-empty list only. -/
theorem sfac_line_valid (els : List (List Char)) (hne : els ≠ []) (he : ∀ v ∈ els, IsParam v) :
    keywordWithParams "SFAC".toList (sfacLine Extracted.Wrap.sfacPrefix Extracted.Wrap.sfacSep els) = true := by
  have h := tokens_prefixed "SFAC".toList _ _ multi_consts_ok.2.2.2.1 multi_consts_ok.2.2.2.2 els he
  cases els with
  | nil => exact absurd rfl hne
  | cons e r => simp [keywordWithParams, sfacLine, h]

/-- the line for no elements is the bare keyword. Unchanged tree: written for a table of explicit scattering factors
    only (finding `C06|file|empty-keyword|SFAC|item=SFACTable|explicit`); not reached after `fixes/C01_1`. -/
theorem sfac_line_fails_on_empty :
    keywordWithParams "SFAC".toList (sfacLine Extracted.Wrap.sfacPrefix Extracted.Wrap.sfacSep []) = false := by
  decide +kernel

/-- A value on a line of its own is a bare line to the specification: its first token begins with a digit. Such a line, the
    text of an absorbed FVAR line, is finding `C06|file|bare-number|item=FVAR|history=add_line`, repaired by `fixes/C04_1`;
    the writer's index bookkeeping behind it is C04's subject and is not modelled here. -/
theorem fvar_value_alone_is_bare : bareLine "0.8".toList = true := by decide +kernel

/-! The writer. The text of an item has several '\n'-separated parts when it is kept with its continuation lines (an
    instruction the library only passes through — `LAUE`, `BEDE`, `LONE`, `OMIT`, `EQIV`, `TIME` … — read from a file in
    which it is continued; a text with a hand-made continuation set through `add_line` / `replace_line`) or comes from a
    multi-line printer. -/

def written (cfg : Cfg) (parts : List (List Char)) : List (List Char) := parts.flatMap fun p => physLines (wrapLine cfg p)

theorem physLines_writeItem (cfg : Cfg) (text : List Char) :
    physLines (writeItem cfg text) = written cfg (splitOnC '\n' text) := by
  rw [writeItem, physLines_joinWith_nl _ (by simp [splitOnC_ne_nil]), List.flatMap_map]
  rfl

/-- Whatever text an item of the res list has (several lines for FVAR, SFAC):
    no physical line written for it is longer than 80 columns. -/
theorem write_item_width_cfg (cfg : Cfg) (hc : cfgOk cfg = true) (text : List Char) :
    ∀ pl ∈ physLines (writeItem cfg text), pl.length ≤ 80 := by
  intro pl hpl
  rw [physLines_writeItem] at hpl
  obtain ⟨part, hpart, hpl⟩ := List.mem_flatMap.mp hpl
  obtain ⟨p, qs, h⟩ := wrapLine_spec cfg hc part (splitOnC_parts '\n' text part hpart)
  exact h.width pl (h.lines ▸ hpl)

theorem write_item_width (text : List Char) : ∀ pl ∈ physLines (writeItem Cfg.extracted text), pl.length ≤ 80 :=
  write_item_width_cfg _ consts_ok.1 text

/-- A text all of whose physical lines are short enough is written exactly as it is: the continuation
    lines that the reader kept with the first line of a passed-through instruction reach the file, in place, unchanged. -/
theorem write_item_verbatim (cfg : Cfg) (text : List Char) (h : ∀ p ∈ splitOnC '\n' text, p.length ≤ cfg.shortMax) :
    writeItem cfg text = text := by
  have : (splitOnC '\n' text).map (wrapLine cfg) = (splitOnC '\n' text).map id :=
    List.map_congr_left fun p hp => wrapLine_short (h p hp)
  rw [writeItem, this, List.map_id, joinWith_splitOnC]

/-- what is joined in front of a continuation does not care how the continuation is spaced -/
theorem tokens_append_congr (a x y : List Char) (ht : tokens x = tokens y) (hh : x.head? = y.head?) :
    tokens (a ++ x) = tokens (a ++ y) := by
  induction a with
  | nil => exact ht
  | cons z a ih =>
    have hh' : (a ++ x).head? = (a ++ y).head? := by rw [List.head?_append, List.head?_append, hh]
    by_cases hz : z = ' '
    · rw [hz, List.cons_append, List.cons_append, tokens_hom.blank_cons, tokens_hom.blank_cons, ih]
    · rw [List.cons_append, List.cons_append, tokens_cons z hz, tokens_cons z hz, ih, hh']

theorem unwrapLines_eq_nil : ∀ pls : List (List Char), unwrapLines pls = some [] → pls = [] := by
  intro pls h
  cases pls with
  | nil => rfl
  | cons pl rest =>
    by_cases hf : flagged pl = true
    · rw [unwrapLines_flagged pl rest hf] at h
      rcases hu : unwrapLines rest with _ | ⟨_ | ⟨_, _⟩⟩ <;> simp [hu, glue] at h
    · rw [unwrapLines_unflagged pl rest (by simpa using hf)] at h
      cases hu : unwrapLines rest <;> simp [hu] at h

def partsOk (cfg : Cfg) (parts : List (List Char)) : Bool :=
  parts.all fun p => decide (p.length ≤ cfg.shortMax) || (endOk p && noLongTok (cfg.width - cfg.indent.length) p)

/-- same token sequences, logical line by logical line; and first logical lines that behave alike when they are joined
    to a line before them (same first character) -/
def TokRel : Option (List (List Char)) → Option (List (List Char)) → Prop
  | none, none => True
  | some a, some b => a.map tokens = b.map tokens ∧ a.head?.bind List.head? = b.head?.bind List.head?
  | _, _ => False

namespace TokRel

theorem map_eq {u v : Option (List (List Char))} (h : TokRel u v) :
    u.map (·.map tokens) = v.map (·.map tokens) := by
  cases u <;> cases v
  · rfl
  · exact h.elim
  · exact h.elim
  · exact congrArg some h.1

theorem cons {j p : List Char} (ht : tokens j = tokens p) (hh : j.head? = p.head?)
    {u v : Option (List (List Char))} (h : TokRel u v) : TokRel (u.map (j :: ·)) (v.map (p :: ·)) := by
  cases u <;> cases v
  · trivial
  · exact h.elim
  · exact h.elim
  · exact ⟨List.cons_eq_cons.mpr ⟨ht, h.1⟩, hh⟩

theorem glue_congr (b : List Char) {u v : Option (List (List Char))} (h : TokRel u v) : TokRel (glue b u) (glue b v) := by
  cases u <;> cases v
  · trivial
  · exact h.elim
  · exact h.elim
  · rename_i xs ys
    obtain ⟨hts, hh⟩ := h
    cases xs <;> cases ys
    · trivial
    · nomatch hts
    · nomatch hts
    · rename_i x _ y _
      obtain ⟨ht, hts⟩ := List.cons_eq_cons.mp hts
      refine ⟨List.cons_eq_cons.mpr ⟨tokens_append_congr b x y ht hh, hts⟩, ?_⟩
      show (b ++ x).head? = (b ++ y).head?
      rw [List.head?_append, List.head?_append, show x.head? = y.head? from hh]

end TokRel

/-- The lexer finds in the lines written for `parts` the logical lines it finds in `parts`, up to `TokRel`; the second half
    of `TokRel` (equal first characters) is what carries the induction past a part that continues the one before it. -/
theorem unwrap_written (cfg : Cfg) (hc : cfgOk cfg = true) : ∀ (parts : List (List Char)),
    (∀ p ∈ parts, '\n' ∉ p) → partsOk cfg parts = true →
      TokRel (unwrapLines (written cfg parts)) (unwrapLines parts) := by
  intro parts
  induction parts with
  | nil => intro _ _; simp [written, unwrapLines, TokRel]
  | cons p tl ih =>
    intro hnl hok
    rw [List.forall_mem_cons] at hnl
    rw [partsOk, List.all_cons, Bool.and_eq_true] at hok
    have ih' := ih hnl.2 hok.2
    have hp := hok.1
    simp only [Bool.or_eq_true, Bool.and_eq_true, decide_eq_true_eq] at hp
    rw [written, List.flatMap_cons, ← written]
    by_cases hf : flagged p = true
    · -- a part that ends in a mark is short, hence written as it is: on both sides the next logical line is joined to it
      have hs : p.length ≤ cfg.shortMax := hp.resolve_right (by simp [endOk, hf])
      rw [wrapLine_short hs, physLines, splitOnC_not_mem _ _ hnl.1, List.singleton_append, unwrapLines_flagged p _ hf,
        unwrapLines_flagged p _ hf]
      exact ih'.glue_congr _
    · -- any other part is written as a block of lines that is one logical line, with its tokens and its first character
      have hf' : flagged p = false := by simpa using hf
      obtain ⟨p', qs, hw⟩ := wrapLine_spec cfg hc p hnl.1
      rw [hw.lines, unwrap_phys qs p' _ (by rw [flagged_congr hw.nonblank_eq, hf']), unwrapLines_unflagged p tl hf']
      exact ih'.cons (hw.tokens_eq (hp.imp_right (·.2))) hw.head_eq

/-- the full-strength statement about the parts of a written text, whatever they are, as long as no token is too long to
    be written at all: FALSE for the repository as it is (`write_item_tokens_fails_on_flagged_long`; known finding
    `C06|file|raw-continued|mark-line>80-by-blanks`) -/
def WriteItemTokensStatement (cfg : Cfg) : Prop :=
  ∀ text : List Char, (∀ p ∈ splitOnC '\n' text, noLongTok (cfg.width - cfg.indent.length) p = true) →
    (logical (writeItem cfg text)).map (·.map tokens) = (logical text).map (·.map tokens)

/-- In what the writer puts into the file for the text of an item the
    continuation-joining lexer finds the same logical lines, token for token, as in the text itself: wrapping a long part
    neither loses a continuation line nor runs into the part behind it, also when the long part itself continues the part
    before it. Hypothesis `partsOk`: a part longer than `shortMax` (80) characters does not end in '=' (the open finding,
    witness `write_item_tokens_fails_on_flagged_long`) and has no token longer than 75
    (`wrap_tokens_fails_on_long_token`). -/
theorem write_item_tokens_partial (cfg : Cfg) (hc : cfgOk cfg = true) (text : List Char)
    (h : partsOk cfg (splitOnC '\n' text) = true) :
    (logical (writeItem cfg text)).map (·.map tokens) = (logical text).map (·.map tokens) := by
  have hrel := unwrap_written cfg hc (splitOnC '\n' text) (splitOnC_parts '\n' text) h
  rw [← physLines_writeItem] at hrel
  exact hrel.map_eq

theorem write_item_tokens (text : List Char) (h : partsOk Cfg.extracted (splitOnC '\n' text) = true) :
    (logical (writeItem Cfg.extracted text)).map (·.map tokens) = (logical text).map (·.map tokens) :=
  write_item_tokens_partial _ consts_ok.1 text h

/-- a `LONE` instruction kept with its continuation lines, the second of which has to be wrapped itself, followed by a
    restraint of 99 characters, meets the hypothesis -/
def sampleItem : List Char :=
  "LONE 6 1 0.35 0.35 109.5 O1 O2 O3 =\n     O4 O5 O6 =\n  O7 O8 O9 O10 O11 O12 O13 O14 O15 O16 O17 O18 O19 O20 O21 O22 O23 O24 O25 O26 O27\n".toList ++ sampleLine

example : partsOk Cfg.extracted (splitOnC '\n' sampleItem) = true ∧
    (physLines (writeItem Cfg.extracted sampleItem)).length = 6 ∧
    (logical (writeItem Cfg.extracted sampleItem)).map (·.length) = some 2 := by
  unfold sampleItem sampleLine
  rw [String.toList_ofList, String.toList_ofList]
  decide +kernel

/-- the text of the open finding: the first line of a continued instruction carries its mark at column 12 and blanks up to
    column 92 -/
def flaggedLongItem : List Char := ("OMIT C1 C2 =".toList ++ List.replicate 80 ' ') ++ "\n  C3 C4".toList

/-- witness of the open finding: the mark of a part that is wrapped although only blanks reach beyond column 80 lands
    inside the joined line (as the token "="), the blanks become the continuation line and `C3 C4` is cut off -/
theorem write_item_tokens_fails_on_flagged_long :
    ¬ ((logical (writeItem Cfg.extracted flaggedLongItem)).map (·.map tokens) =
        (logical flaggedLongItem).map (·.map tokens)) := by decide +kernel

theorem write_item_statement_false : ¬ WriteItemTokensStatement Cfg.extracted := by
  intro h
  exact write_item_tokens_fails_on_flagged_long (h flaggedLongItem (by decide +kernel))

/-! The harness reads written files with the comment-aware lexer `logicalC`, which decides per physical line by `flaggedC`
    whether it is continued. On a line without '!' that is `flagged`, unless the line is an ordinary remark. (`logicalC`
    also skips blank-led and empty lines between instructions, which `logical` keeps; the two lexers are not compared.) -/

theorem code_eq_self (l : List Char) (h : '!' ∉ l) : code l = l := by
  induction l with
  | nil => rfl
  | cons c cs ih =>
    rw [List.mem_cons, not_or] at h
    rw [code, List.takeWhile_cons_of_pos (by simpa using Ne.symm h.1), ← code, ih h.2]

theorem flaggedC_eq_flagged (l : List Char) (h : '!' ∉ l) (hr : isRem l = false) : flaggedC l = flagged l := by
  simp [flaggedC, hr, code_eq_self l h]

/-- a DSR command (`REM DSR PUT/REPLACE …`) is the one kind of remark that is continued: its mark is read as that of an
    instruction. (`write_shelx_file` wraps it like any other line; `wrap_width`, `wrap_shape`, `wrap_tokens` hold for every
    line, so for a DSR command of any length.) -/
theorem flaggedC_eq_flagged_dsr (l : List Char) (h : '!' ∉ l) (hd : isDsr l = true) : flaggedC l = flagged l := by
  simp [flaggedC, hd, code_eq_self l h]

theorem flaggedC_rem (l : List Char) (hr : isRem l = true) (hd : isDsr l = false) : flaggedC l = false := by
  simp [flaggedC, hr, hd]

example : isDsr "REM DSR PUT OC(CF3)3 WITH O1 C1 C2 ON C1 C2 C3 PART 2 OCC -31 =".toList = true := by
  rw [String.toList_ofList]; decide +kernel
example : isDsr "rem  dsr  replace TOLUENE with C1".toList = true := by
  rw [String.toList_ofList]; decide +kernel
example : isDsr "REM DSR was used =".toList = false := by
  rw [String.toList_ofList]; decide +kernel
example : isDsr " REM DSR PUT TOL".toList = false := by
  rw [String.toList_ofList]; decide +kernel
example : (logicalC "REM DSR PUT TOL WITH C1 =\n  C2 C3\nREM a =\n  b\n".toList).map (·.map tokens)
    = some [["REM", "DSR", "PUT", "TOL", "WITH", "C1", "C2", "C3"].map String.toList, ["REM", "a", "="].map String.toList] := by
  rw [String.toList_ofList]
  decide +kernel

end Shelx.C06
