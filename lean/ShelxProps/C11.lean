/-
  C11 — property theorems. Under `ValidSetting` the `not in` test of the code never fires (`expandWith_eq`): the loop
  appends one `block` per operator, and the blocks are the cosets the spec list is made of (`block_perm`). That is
  `expand_perm`; the other results follow from it and from the spec side.
-/
import ShelxModel.C11
import ShelxModel.C11Table
import ShelxProps.Lemmas.C11Closed
import ShelxProps.Lemmas.C11Check
import ShelxProps.Lemmas.C11Shift
import Mathlib.Tactic.Push
import Mathlib.Data.List.Perm.Basic

namespace Shelx.C11
open List

theorem opEq_iff (a b : Op) : opEq a b = true ↔ cls a = cls b := by
  cases a; cases b
  simp [opEq, cls]

theorem notIn_iff (x : Op) (L : List Op) : notIn x L = true ↔ cls x ∉ L.map cls := by
  simp only [notIn, Bool.not_eq_true', ← Bool.not_eq_true, List.any_eq_true, opEq_iff, List.mem_map]

theorem addCentred_eq (C : List Vec) (s : Op) (L : List Op) : addCentred C s L = L ++ C.map (applyLatt s) := by
  unfold addCentred
  induction C generalizing L with
  | nil => simp
  | cons c C ih => simp [List.foldl_cons, ih]

/-- a loop whose every step appends its block, as long as the longer list has no class twice, appends all the blocks -/
theorem foldl_eq_append {α : Type} {step : List Op → α → List Op} {blk : α → List Op}
    (hstep : ∀ L a, ((L ++ blk a).map cls).Nodup → step L a = L ++ blk a) (l : List α) (L : List Op)
    (h : ((L ++ l.flatMap blk).map cls).Nodup) : l.foldl step L = L ++ l.flatMap blk := by
  induction l generalizing L with
  | nil => simp
  | cons a l ih =>
    rw [List.flatMap_cons, ← List.append_assoc] at h
    rw [List.foldl_cons, hstep L a (h.sublist ((List.sublist_append_left _ _).map cls)), ih _ h, List.flatMap_cons,
      List.append_assoc]

theorem addCentredChecked_eq (C : List Vec) (s : Op) (L : List Op)
    (h : ((L ++ C.map (applyLatt s)).map cls).Nodup) : addCentredChecked C s L = L ++ C.map (applyLatt s) := by
  rw [List.map_eq_flatMap (l := C)] at h ⊢
  refine foldl_eq_append (fun L c h => if_pos ((notIn_iff _ _).mpr fun hm => ?_)) C L h
  rw [List.map_append, List.nodup_append] at h
  exact h.2.2 _ hm _ (List.mem_map_of_mem (List.mem_singleton_self _)) rfl

/-- what one SYMM line (or the identity, when LATT is read) contributes -/
def block (C : List Vec) (centric : Bool) (s : Op) : List Op :=
  (s :: C.map (applyLatt s)) ++ (if centric then inv s :: C.map (applyLatt (inv s)) else [])

theorem append_eq (C : List Vec) (centric : Bool) (L : List Op) (s : Op)
    (h : ((L ++ block C centric s).map cls).Nodup) : append C centric L s = L ++ block C centric s := by
  have h1 : (((L ++ [s]) ++ C.map (applyLatt s)).map cls).Nodup := by
    have := h
    rw [block, ← List.append_assoc] at this
    simpa using this.sublist ((List.sublist_append_left _ _).map cls)
  unfold append
  simp only [addCentredChecked_eq C s (L ++ [s]) h1, addCentred_eq]
  cases centric <;> simp [block, List.append_assoc]

theorem lattStep_eq_append (C : List Vec) (centric : Bool) : lattStep C centric = append C centric [] ident := by
  cases centric <;> rfl

theorem expandWith_eq (C : List Vec) (centric : Bool) (S : List Op)
    (h : (((ident :: S).flatMap (block C centric)).map cls).Nodup) :
    expandWith C centric S = (ident :: S).flatMap (block C centric) := by
  rw [expandWith, lattStep_eq_append, ← List.foldl_cons]
  simpa using foldl_eq_append (append_eq C centric) (ident :: S) [] (by simpa using h)

theorem block_perm (C : List Vec) (centric : Bool) (s : Op) :
    block C centric s ~ (Vec.zero :: C).flatMap fun c => (signs centric).map fun i => comp (transl c) (comp i s) := by
  have hZ : ∀ o, o :: C.map (applyLatt o) = (Vec.zero :: C).map fun c => comp (transl c) o := fun o => by
    rw [List.map_cons, show transl Vec.zero = ident from rfl, comp_ident]
    exact congrArg _ (List.map_congr_left fun c _ => (comp_transl c o).symm)
  rw [block, hZ, hZ, show inv s = comp inversion s from (comp_inversion s).symm]
  generalize Vec.zero :: C = Z
  cases centric with
  | false => simp [signs, comp_ident, ← List.map_eq_flatMap]
  | true => simpa [signs, comp_ident] using (perm_flatMap_pair _ _ _).symm

theorem expandWith_perm (C : List Vec) (centric : Bool) (S : List Op)
    (h : ((fullGroupWith C centric S).map cls).Nodup) :
    (expandWith C centric S).map cls ~ (fullGroupWith C centric S).map cls := by
  have hp : ((ident :: S).flatMap (block C centric)).map cls ~ (fullGroupWith C centric S).map cls :=
    (List.Perm.flatMap_left _ fun s _ => block_perm C centric s).map cls
  rw [expandWith_eq C centric S (hp.nodup_iff.mpr h)]
  exact hp

/-- entry `n` of the table regenerated from `LATT.lattdict` holds the manual's centring vectors (in any order) -/
def tieB (n : Nat) : Bool :=
  match lookupLatt Shelx.Extracted.lattTable n with
  | some C => C.isPerm (specCentringNat n)
  | none => false

/-- re-checked against cards.py on every run: an edited, added or dropped vector breaks this `decide` -/
theorem lattTable_matches_manual : ∀ n ∈ [1, 2, 3, 4, 5, 6, 7], tieB n = true := by decide +kernel

theorem centring_spec (N : Int) (h1 : 1 ≤ N.natAbs) (h7 : N.natAbs ≤ 7) :
    ∃ C, centring N = some C ∧ C ~ specCentring N := by
  have hm : N.natAbs ∈ [1, 2, 3, 4, 5, 6, 7] := by
    simp only [List.mem_cons, List.not_mem_nil, or_false]; omega
  have := lattTable_matches_manual _ hm
  unfold tieB at this
  unfold centring specCentring
  cases hl : lookupLatt Shelx.Extracted.lattTable N.natAbs with
  | none => simp [hl] at this
  | some C =>
    simp only [hl, List.isPerm_iff] at this
    exact ⟨C, rfl, this⟩

theorem fullGroupWith_perm_centring {C C' : List Vec} (h : C ~ C') (centric : Bool) (S : List Op) :
    fullGroupWith C centric S ~ fullGroupWith C' centric S := by
  unfold fullGroupWith
  exact List.Perm.flatMap_left _ fun s _ => List.Perm.flatMap_right _ (List.Perm.cons _ h)

/-- for a LATT number N in ±1..±7 and SYMM operators pairwise distinct modulo centring, inversion and ℤ³
    (`ValidSetting`), the list the code builds is, class by class, a permutation of the space group `fullGroup N S`:
    every operator once, nothing else. `ValidSetting` excludes SYMM lines that repeat an operator already generated
    (`expand_duplicates_outside_valid`) and LATT numbers outside the table (KeyError). -/
theorem expand_perm (N : Int) (S : List Op) (h : ValidSetting N S) :
    ∃ L, expand N S = some L ∧ L.map cls ~ (fullGroup N S).map cls := by
  obtain ⟨⟨h1, h7⟩, hnd⟩ := h
  obtain ⟨C, hC, hperm⟩ := centring_spec N h1 h7
  refine ⟨expandWith C (centricOf N) S, by simp [expand, hC], ?_⟩
  have hp := (fullGroupWith_perm_centring hperm (centricOf N) S).map cls
  have hnd' : ((fullGroupWith C (centricOf N) S).map cls).Nodup := hp.nodup_iff.mpr hnd
  exact (expandWith_perm C (centricOf N) S hnd').trans hp

/-- (1 + number of SYMM lines) × lattice points × (2 if centrosymmetric) operators -/
theorem expand_card (N : Int) (S : List Op) (h : ValidSetting N S) :
    ∃ L, expand N S = some L ∧ L.length = (1 + S.length) * mult N * (if N > 0 then 2 else 1) := by
  obtain ⟨L, hL, hp⟩ := expand_perm N S h
  exact ⟨L, hL, by simpa [fullGroup_length] using hp.length_eq⟩

/-- every class exactly once -/
theorem expand_nodup (N : Int) (S : List Op) (h : ValidSetting N S) :
    ∃ L, expand N S = some L ∧ (L.map cls).Nodup := by
  obtain ⟨L, hL, hp⟩ := expand_perm N S h
  exact ⟨L, hL, hp.nodup_iff.mpr h.2⟩

theorem truncInt_intCast (n : Int) : truncInt (n : Rat) = n := by
  unfold truncInt
  split
  · exact Rat.floor_intCast n
  · have : (-(n : Rat)) = ((-n : Int) : Rat) := by push_cast; rfl
    rw [this, Rat.floor_intCast]; omega

/-- the code reads the LATT line as the manual says: an integral first number is N (further parameters ignored),
    and N = 1 when no number is given -/
theorem decodeLatt_spec (n : Option Int) (rest : List Rat) :
    decodeLatt (match n with | none => [] | some k => (k : Rat) :: rest) = lattOf n := by
  cases n with
  | none => rfl
  | some k => simp [decodeLatt, lattOf, truncInt_intCast]

/-- `expand_perm` for the line as written: `LATT` without a number is LATT 1 -/
theorem expand_perm_line (n : Option Int) (rest : List Rat) (S : List Op) (h : ValidSetting (lattOf n) S) :
    ∃ L, expandLine (match n with | none => [] | some k => (k : Rat) :: rest) S = some L ∧
      L.map cls ~ (fullGroup (lattOf n) S).map cls := by
  unfold expandLine
  rw [decodeLatt_spec]
  exact expand_perm _ S h

/-- bare `LATT` + `SYMM -X, 1/2+Y, 1/2-Z` is P2(1)/c: four operators -/
example : ∃ L, expandLine [] [mkOp (-1) 0 0 0 1 0 0 0 (-1) 0 (1/2) (1/2)] = some L ∧ L.length = 4 := by
  refine ⟨_, rfl, ?_⟩
  decide +kernel

/-- the code's list is a group whenever the setting describes one -/
theorem expand_closed (N : Int) (S : List Op) (h : ValidSetting N S) (hc : ClosedSetting N S) :
    ∃ L, expand N S = some L ∧ Closed L := by
  obtain ⟨L, hL, hp⟩ := expand_perm N S h
  exact ⟨L, hL, closed_of_perm hp hc⟩

/-- P2(1)/c: LATT 1, SYMM -X, 1/2+Y, 1/2-Z -/
example : ValidSetting 1 [mkOp (-1) 0 0 0 1 0 0 0 (-1) 0 (1/2) (1/2)] ∧ ClosedSetting 1 [mkOp (-1) 0 0 0 1 0 0 0 (-1) 0 (1/2) (1/2)] := by
  decide +kernel

/-- C2/c: LATT 7, SYMM -X, Y, 1/2-Z (centred and centrosymmetric), by the route `settings_spec` takes for the table:
    the evaluator, here on numerators over 2. -/
example : ValidSetting 7 [mkOp (-1) 0 0 0 1 0 0 0 (-1) 0 0 (1/2)] ∧ ClosedSetting 7 [mkOp (-1) 0 0 0 1 0 0 0 (-1) 0 0 (1/2)] :=
  (groupCheckB_sound (D := 2) (by decide +kernel)).imp (fun h => ⟨by decide, h⟩) id

/-- a valid setting that is no group (the theorems `expand_perm`, `expand_card` do not need closure) -/
example : ValidSetting (-3) [mkOp 0 (-1) 0 1 (-1) 0 0 0 1 0 0 (1/6)] := by decide +kernel

/-- why `ValidSetting` is there: a SYMM line that repeats an operator the lattice already generates (here the
    I-centring translation itself) is appended unconditionally by `SymmCards.append`, and the list has that class
    twice (the real code: LATT -2 / SYMM 1/2+X, 1/2+Y, 1/2+Z gives 3 operators) -/
theorem expand_duplicates_outside_valid :
    ∃ L, expand (-2) [mkOp 1 0 0 0 1 0 0 0 1 (1/2) (1/2) (1/2)] = some L ∧ ¬ (L.map cls).Nodup := by
  refine ⟨[ident, applyLatt ident ⟨1/2, 1/2, 1/2⟩, mkOp 1 0 0 0 1 0 0 0 1 (1/2) (1/2) (1/2)], by decide +kernel, by decide +kernel⟩

/-- for each of the 43 tabulated settings (P I R F A B C, centric and acentric except B: no LATT −6; all crystal systems) the code's list
    is the group generated by SYMM, centring and inversion, and has the order International Tables A give
    (`e.order`: tabulated, not computed). -/
theorem tabulated_settings_valid_and_closed : ∀ e ∈ settings,
    ValidSetting e.N e.S ∧ ClosedSetting e.N e.S ∧
    ∃ L, expand e.N e.S = some L ∧ L.length = e.order ∧ (L.map cls).Nodup ∧ Closed L ∧
      L.map cls ~ (fullGroup e.N e.S).map cls := by
  intro e he
  obtain ⟨hv, hc, hl⟩ := settings_spec e he
  obtain ⟨L, hL, hp⟩ := expand_perm e.N e.S hv
  refine ⟨hv, hc, L, hL, ?_, hp.nodup_iff.mpr hv.2, closed_of_perm hp hc, hp⟩
  simpa [hl] using hp.length_eq

/-- nothing runs `modelOK` (ShelxModel/C11.lean): for the table it is proved, here. The REGENERATED centring table
    enters through `expand_perm`, that is through `lattTable_matches_manual`. -/
theorem settings_modelOK : ∀ e ∈ settings, modelOK e = true := by
  intro e he
  obtain ⟨_, _, L, hL, hlen, hnd, _⟩ := tabulated_settings_valid_and_closed e he
  simp [modelOK, hL, hlen, nodupB_iff, hnd]

/-- a valid closed setting referred to ANY other origin (`shiftSetting u N S`): the list the code builds from the
    LATT/SYMM lines of the moved setting is, class by class, the group of `LATT N / SYMM S` with every operator
    referred to the new origin. No hypothesis on `u`: the translations may have any denominator. -/
theorem expand_shifted (u : Vec) (N : Int) (S : List Op) (h : ValidSetting N S) (hc : ClosedSetting N S) :
    ∃ L, expand (shiftSetting u N S).1 (shiftSetting u N S).2 = some L ∧ (L.map cls).Nodup ∧ Closed L ∧
      L.length = (fullGroup N S).length ∧ L.map cls ~ ((fullGroup N S).map (shiftOp u)).map cls := by
  obtain ⟨hv', hc'⟩ := shiftSetting_valid_closed u N S h hc
  obtain ⟨L, hL, hp⟩ := expand_perm _ _ hv'
  have hp2 := hp.trans ((fullGroup_shiftSetting_perm u N S).map cls)
  refine ⟨L, hL, hp.nodup_iff.mpr hv'.2, closed_of_perm hp hc', ?_, hp2⟩
  simpa using hp2.length_eq

/-- C2/c (LATT 7, SYMM -X, Y, 1/2-Z) with the origin moved by −(1/8, 0, 1/16) is LATT -7 with
    SYMM 1/4-X, -Y, 1/8-Z / 1/4-X, Y, 5/8-Z / X, -Y, -1/2+Z -/
example : shiftSetting ⟨1/8, 0, 1/16⟩ 7 [mkOp (-1) 0 0 0 1 0 0 0 (-1) 0 0 (1/2)] =
    (-7, [mkOp (-1) 0 0 0 (-1) 0 0 0 (-1) (1/4) 0 (1/8), mkOp (-1) 0 0 0 1 0 0 0 (-1) (1/4) 0 (5/8),
          mkOp 1 0 0 0 (-1) 0 0 0 1 0 0 (-1/2)]) := by decide +kernel

/-- … and the code's list for it has the 8 operators of C2/c, closed under composition -/
example : ∃ L, expand (-7) [mkOp (-1) 0 0 0 (-1) 0 0 0 (-1) (1/4) 0 (1/8), mkOp (-1) 0 0 0 1 0 0 0 (-1) (1/4) 0 (5/8),
      mkOp 1 0 0 0 (-1) 0 0 0 1 0 0 (-1/2)] = some L ∧ L.length = 8 ∧ Closed L := by
  refine ⟨_, rfl, ?_⟩
  decide +kernel

/-- `expand_shifted` for the tabulated settings: at ANY origin the code's list is the moved group, of the order
    International Tables A give. -/
theorem tabulated_settings_shifted : ∀ e ∈ settings, ∀ u : Vec,
    ∃ L, expand (shiftSetting u e.N e.S).1 (shiftSetting u e.N e.S).2 = some L ∧ L.length = e.order ∧
      (L.map cls).Nodup ∧ Closed L ∧ L.map cls ~ ((fullGroup e.N e.S).map (shiftOp u)).map cls := by
  intro e he u
  obtain ⟨hv, hc, hl⟩ := settings_spec e he
  obtain ⟨L, hL, hnd, hcl, hlen, hp⟩ := expand_shifted u e.N e.S hv hc
  exact ⟨L, hL, by rw [hlen, hl], hnd, hcl, hp⟩

theorem settings_count : settings.length = 43 := by decide

end Shelx.C11
