/-
  C08 — property theorems (model and spec: ShelxModel/C08.lean).

  Quantified over ALL files (lists of lines of the three kinds), ALL histories (lists of `Op` with arbitrary arguments:
  ids, positions and handles that do not exist included; reads of the same or other files anywhere in the history) and
  ALL previous states of the object. No length bound: induction over the op list with the structural invariant `WF`.
  No hypothesis restricts files or histories; the only restriction is the op alphabet itself (`Op`): `replace_line`,
  `add_atom`, `insert_frag_fend_entry` and assignments to `atom.resi` are not modelled.

  `Inv8` is proved for the repaired code (`repaired`: fixes/C08_1 identity search, fixes/C08_2 rename clears the name
  cache); the theorems with `c : Cfg` (reads, attributes, the fuel of the deletion loop) hold for both variants. For the
  code as of the snapshot (`snapshot`) there are witnesses by `decide`; the harness replays them on the implementation.
  `delete_removes_requested`, `delId_removes_requested`: the atom whose deletion was requested does land in `gone`, so
  the `gone` clause of `Inv8` is not vacuous; that no other atom goes with it is not proved.
-/
import ShelxModel.C08

namespace Shelx.C08

theorem firstIdx_eq_findIdx? (p : Entry → Bool) (l : List Entry) : firstIdx p l = l.findIdx? p := by
  induction l with
  | nil => rfl
  | cons x xs ih => rw [firstIdx, List.findIdx?_cons, ih]

theorem indexOf_repaired (s : St) (v : Entry) : indexOf repaired s v = s.res.idxOf? v := by
  rw [indexOf, firstIdx_eq_findIdx?]
  exact congrArg (List.findIdx? · s.res) (funext fun item => by simp [pyEq, repaired])

theorem holdsAt_of_mem {s : St} {e : Entry} (h : e ∈ s.res) : holdsAt repaired s e := by
  obtain ⟨i, hi⟩ := Option.isSome_iff_exists.mp (List.isSome_idxOf?.mpr h)
  obtain ⟨hlt, he, _⟩ := List.idxOf?_eq_some_iff.mp hi
  rw [holdsAt, indexOf_repaired, hi]
  exact List.getElem?_eq_some_iff.mpr ⟨hlt, he⟩

@[simp] def atomOf : Entry → Option Nat
  | .atom u => some u
  | .raw _ => none
  | .card _ => none

theorem atomOf_eq_some {e : Entry} {a : Nat} : atomOf e = some a ↔ e = .atom a := by
  cases e <;> simp [atomOf]

theorem filterMap_erase_atom (a : Nat) (l : List Entry) :
    (l.erase (.atom a)).filterMap atomOf = (l.filterMap atomOf).erase a := by
  rw [List.erase_eq_eraseP, List.erase_eq_eraseP, List.eraseP_filterMap]
  congr
  funext e
  cases e with
  | atom u => exact decide_eq_decide.mpr ⟨Entry.atom.inj, congrArg _⟩
  | _ => rfl

theorem pyInsert_eq (x : Entry) (l : List Entry) : ∀ i, pyInsert l i x = l.take i ++ x :: l.drop i := by
  induction l with
  | nil => intro i; cases i <;> rfl
  | cons y ys ih =>
    intro i
    cases i with
    | zero => rfl
    | succ i => exact congrArg (y :: ·) (ih i)

theorem mem_pyInsert {e x : Entry} {l : List Entry} {i : Nat} : e ∈ pyInsert l i x ↔ e = x ∨ e ∈ l := by
  rw [pyInsert_eq, List.mem_append, List.mem_cons, or_left_comm, ← List.mem_append, List.take_append_drop]

theorem filterMap_pyInsert {β : Type} {f : Entry → Option β} {x : Entry} (hx : f x = none) (l : List Entry) (i : Nat) :
    (pyInsert l i x).filterMap f = l.filterMap f := by
  rw [pyInsert_eq, List.filterMap_append, List.filterMap_cons_none hx, ← List.filterMap_append, List.take_append_drop]

/-- what every reachable state of the repaired code satisfies; `atoms_eq`: `all_atoms` is exactly the sequence of Atom
objects in `_reslist`, in file order -/
structure WF (s : St) : Prop where
  atoms_eq : s.atoms = s.res.filterMap atomOf
  nodup : s.atoms.Nodup
  cards_in : ∀ k ∈ s.cards, Entry.card k ∈ s.res
  cache_ok : s.cache = [] ∨ s.cache = build s
  gone_out : ∀ g ∈ s.gone, g ∉ s.atoms
  slots_in : ∀ p ∈ s.slots, Entry.card p.2 ∈ s.res

theorem WF.mem_atoms_iff {s : St} (h : WF s) {a : Nat} : a ∈ s.atoms ↔ Entry.atom a ∈ s.res := by
  rw [h.atoms_eq, List.mem_filterMap]
  exact ⟨fun ⟨_, he, hea⟩ => atomOf_eq_some.mp hea ▸ he, fun ha => ⟨_, ha, rfl⟩⟩

theorem WF.gone_absent {s : St} (h : WF s) {g : Nat} (hg : g ∈ s.gone) : g ∉ s.atoms ∧ Entry.atom g ∉ s.res :=
  ⟨h.gone_out g hg, fun hm => h.gone_out g hg (h.mem_atoms_iff.mpr hm)⟩

theorem WF.atomid_spec {s : St} (h : WF s) {a : Nat} (ha : a ∈ s.atoms) :
    indexOf repaired s (.atom a) = some (atomid repaired s a) ∧ s.res[atomid repaired s a]? = some (.atom a) := by
  obtain ⟨i, hi, hg⟩ := Option.bind_eq_some_iff.mp (holdsAt_of_mem (h.mem_atoms_iff.mp ha))
  have e : atomid repaired s a = i := by rw [atomid, hi]
  rw [e]
  exact ⟨hi, hg⟩

theorem atomid_inj {s : St} (h : WF s) {a b : Nat} (ha : a ∈ s.atoms) (hb : b ∈ s.atoms)
    (e : atomid repaired s a = atomid repaired s b) : a = b := by
  have := (h.atomid_spec ha).2
  rw [e, (h.atomid_spec hb).2] at this
  cases this
  rfl

theorem effCache_of_wf {s : St} (h : WF s) : effCache s = build s := by
  unfold effCache
  rcases h.cache_ok with hc | hc <;> simp [hc]

theorem removeAt_fields (c : Cfg) (s : St) (n a : Nat) :
    (removeAt c s n a).1.atoms = s.atoms.eraseIdx n ∧ (removeAt c s n a).1.gone = a :: s.gone ∧
    (removeAt c s n a).1.slots = s.slots ∧ (removeAt c s n a).1.vals = s.vals := by
  unfold removeAt
  cases indexOf c s (.atom a) <;> exact ⟨rfl, rfl, rfl, rfl⟩

theorem removeAt_repaired {s : St} {n a : Nat} (h : WF s) (hn : s.atoms[n]? = some a) :
    removeAt repaired s n a =
      ({ s with atoms := s.atoms.erase a, gone := a :: s.gone, res := s.res.erase (.atom a), cache := [] }, false) := by
  obtain ⟨hlt, rfl⟩ := List.getElem?_eq_some_iff.mp hn
  have hi := (h.atomid_spec (List.getElem_mem hlt)).1
  -- in `res` the search finds the first occurrence, in `atoms` there is only one: both `eraseIdx` are `erase`
  have e := List.erase_eq_eraseIdx s.res (.atom s.atoms[n])
  rw [← indexOf_repaired, hi] at e
  simp only [removeAt, hi, e, List.erase_eq_eraseIdx_of_idxOf (h.nodup.idxOf_getElem n hlt)]

theorem wf_removeAt (s : St) (n a : Nat) (hn : s.atoms[n]? = some a) (h : WF s) : WF (removeAt repaired s n a).1 := by
  rw [removeAt_repaired h hn]
  exact {
    atoms_eq := by simp only [filterMap_erase_atom, ← h.atoms_eq]
    nodup := h.nodup.erase a
    cards_in := fun k hk => (List.mem_erase_of_ne (by simp)).mpr (h.cards_in k hk)
    cache_ok := Or.inl rfl
    gone_out := fun g hg hm => by
      rcases List.mem_cons.mp hg with rfl | hg
      · exact h.nodup.not_mem_erase hm
      · exact h.gone_out g hg (List.mem_of_mem_erase hm)
    slots_in := fun p hp => (List.mem_erase_of_ne (by simp)).mpr (h.slots_in p hp) }

/-- the loop changes the state only by `removeAt` at a position that holds an atom -/
theorem delLoop_preserves {c : Cfg} {P : St → Prop}
    (hP : ∀ s n a, s.atoms[n]? = some a → P s → P (removeAt c s n a).1) (key fuel n : Nat) (s : St) (h : P s) :
    P (delLoop c key fuel n s).1 := by
  -- the branches of `delLoop`: out of fuel; list exhausted; key found and `removeAt` raised; key found, loop goes on;
  -- another key
  fun_induction delLoop c key fuel n s with
  | case1 => exact h
  | case2 => exact h
  | case3 fuel n s a hn _ s' hra => have h' := hP s n a hn h; rwa [hra] at h'
  | case4 fuel n s a hn _ s' hra ih => have h' := hP s n a hn h; rw [hra] at h'; exact ih h'
  | case5 fuel n s a _ _ ih => exact ih h

theorem wf_delLoop (key fuel n : Nat) (s : St) (h : WF s) : WF (delLoop repaired key fuel n s).1 :=
  delLoop_preserves wf_removeAt key fuel n s h

/-- The states `a.delete()` can leave: `s` if the atom has no index, else that of `delItem` at its index, with the cache
    cleared unless `delItem` raised. -/
theorem step_delete_cases {c : Cfg} {Q : St → Prop} (a : Nat) (s : St) (h0 : indexOf c s (.atom a) = none → Q s)
    (h1 : ∀ k, indexOf c s (.atom a) = some k → Q (delItem c k s).1) (hc : ∀ s', Q s' → Q { s' with cache := [] }) :
    Q (step c (.delete a) s).1 := by
  cases hi : indexOf c s (.atom a) with
  | none => simpa only [step, hi] using h0 hi
  | some k =>
    have h := h1 k hi
    simp only [step, hi]
    generalize delItem c k s = r at h ⊢
    obtain ⟨s', _ | _⟩ := r
    · exact hc s' h
    · exact h

theorem atomsOf_eq (f : List Line) : ∀ i, atomsOf i f = (resOf i f).filterMap atomOf := by
  induction f with
  | nil => exact fun _ => rfl
  | cons l ls ih =>
    intro i
    cases l with
    | atom => exact congrArg (i :: ·) (ih (i + 1))
    | _ => exact ih (i + 1)

theorem atomsOf_sublist (f : List Line) : ∀ i, (atomsOf i f).Sublist (List.range' i f.length) := by
  induction f with
  | nil => exact fun _ => .slnil
  | cons l ls ih =>
    intro i
    cases l with
    | atom => exact (ih (i + 1)).cons_cons i
    | _ => exact (ih (i + 1)).cons i

theorem cardsOf_sublist (f : List Line) : ∀ i, ((cardsOf i f).map Entry.card).Sublist (resOf i f) := by
  induction f with
  | nil => exact fun _ => .slnil
  | cons l ls ih =>
    intro i
    cases l with
    | card => exact (ih (i + 1)).cons_cons _
    | _ => exact (ih (i + 1)).cons _

theorem slotsOf_sublist (f : List Line) : ∀ i, ((slotsOf i f).map fun p => Entry.card p.2).Sublist (resOf i f) := by
  induction f with
  | nil => exact fun _ => .slnil
  | cons l ls ih =>
    intro i
    rcases l with _ | _ | ⟨_, _ | _⟩
    case card.some => exact (ih (i + 1)).cons_cons _
    all_goals exact (ih (i + 1)).cons _

theorem read_eq (f : List Line) (s : St) :
    read f s = { res := resOf 0 f, atoms := atomsOf 0 f, cards := cardsOf 0 f, text := textAt f, name := nameAt f,
                 cache := [], gone := [], slots := slotsOf 0 f, vals := valsOf f } := rfl

theorem wf_read (f : List Line) (s : St) : WF (read f s) := by
  rw [read_eq]
  exact {
    atoms_eq := atomsOf_eq f 0
    nodup := (atomsOf_sublist f 0).nodup List.nodup_range'
    cards_in := fun _ hk => (cardsOf_sublist f 0).subset (List.mem_map_of_mem hk)
    cache_ok := Or.inl rfl
    gone_out := fun _ hg => nomatch hg
    slots_in := fun _ hp => (slotsOf_sublist f 0).subset (List.mem_map_of_mem (f := fun p => Entry.card p.2) hp) }

theorem wf_step (op : Op) (s : St) (h : WF s) : WF (step repaired op s).1 := by
  cases op with
  | delId k => exact wf_delLoop k _ 0 s h
  | delete a =>
    exact step_delete_cases a s (fun _ => h) (fun k _ => wf_delLoop k _ 0 s h) fun _ h' => { h' with cache_ok := Or.inl rfl }
  | insertAfter pos t =>
    exact { h with
      atoms_eq := h.atoms_eq.trans (filterMap_pyInsert rfl s.res (pos + 1)).symm
      cards_in := fun k hk => mem_pyInsert.mpr (Or.inr (h.cards_in k hk))
      slots_in := fun p hp => mem_pyInsert.mpr (Or.inr (h.slots_in p hp)) }
  | rename a n t => exact { h with cache_ok := Or.inl rfl }
  | retext u t => exact { h with }  -- `WF` does not look at `text`
  | lookup => exact { h with cache_ok := Or.inr (effCache_of_wf h) }
  | read f => exact wf_read f s

theorem wf_run (ops : List Op) : ∀ s, WF s → WF (run repaired ops s) := by
  induction ops with
  | nil => exact fun _ h => h
  | cons op ops ih => exact fun s h => ih _ (wf_step op s h)

theorem dictGet_mem {n w : Nat} {l : List (Nat × Nat)} : dictGet n l = some w → (n, w) ∈ l := by
  induction l with
  | nil => exact nofun
  | cons p r ih =>
    rw [dictGet]
    split
    · next hd => exact fun h => List.mem_cons_of_mem _ (ih (hd.trans h))
    · split
      · next hk => exact fun h => by cases h; cases eq_of_beq hk; exact List.mem_cons_self
      · exact nofun

theorem dictGet_ne_none {n w : Nat} {l : List (Nat × Nat)} : (n, w) ∈ l → dictGet n l ≠ none := by
  induction l with
  | nil => exact nofun
  | cons p r ih =>
    intro h
    rw [dictGet]
    split
    · exact nofun
    · next hd =>
      rcases List.mem_cons.mp h with rfl | h
      · simp
      · exact absurd hd (ih h)

theorem inv8_of_wf {s : St} (h : WF s) : Inv8 repaired s := by
  refine ⟨fun a ha => holdsAt_of_mem (h.mem_atoms_iff.mp ha), fun k hk => holdsAt_of_mem (h.cards_in k hk),
          ⟨h.nodup, fun _ ha _ hb => atomid_inj h ha hb⟩, ?_, ?_, ?_, ?_⟩
  · intro a ha
    unfold byId
    cases hf : s.atoms.find? (fun b => atomid repaired s b == atomid repaired s a) with
    | none => simpa using List.find?_eq_none.mp hf a ha
    | some b => rw [atomid_inj h (List.mem_of_find?_eq_some hf) ha (by simpa using List.find?_some hf)]
  · intro a ha hu
    rw [byName, effCache_of_wf h]
    cases hd : dictGet (s.name a) (build s) with
    | none => exact absurd hd (dictGet_ne_none (List.mem_map_of_mem (f := fun b => (s.name b, b)) ha))
    | some w =>
      obtain ⟨b, hb, e⟩ := List.mem_map.mp (dictGet_mem hd)
      obtain ⟨e1, rfl⟩ := Prod.mk.inj e
      rw [hu b hb e1]
  · intro g hg
    refine ⟨(h.gone_absent hg).1, (h.gone_absent hg).2, ?_⟩
    rw [effCache_of_wf h, build, List.map_map]
    simpa using h.gone_out g hg
  · intro p _ u hu
    exact holdsAt_of_mem (h.slots_in (p.1, u) (dictGet_mem (Option.mem_def.mp hu)))

/-- reading any file into an object in any previous state gives a consistent model -/
theorem parse_establishes_inv (f : List Line) (s : St) : Inv8 repaired (read f s) :=
  inv8_of_wf (wf_read f s)

/-- each API call of the alphabet leads from a consistent state to a consistent state, in which the
property holds. `WF` is the inductive strengthening of `Inv8`, which alone does not give `atoms_eq`. -/
theorem op_preserves_inv (op : Op) (s : St) (h : WF s) : WF (step repaired op s).1 ∧ Inv8 repaired (step repaired op s).1 :=
  ⟨wf_step op s h, inv8_of_wf (wf_step op s h)⟩

/-- after any history of calls that starts with a read, whatever the object held before, the property
holds -/
theorem history_inv (f : List Line) (ops : List Op) (s0 : St) : Inv8 repaired (run repaired ops (read f s0)) :=
  inv8_of_wf (wf_run ops _ (wf_read f s0))

/-- two atoms with identical lines (uids 2 and 3; e.g. the same atom line in two residues), one instruction whose
object is assigned to attribute 4 (as `PLAN` to `shx.plan`), raw lines, the last of which sets the scalar attribute 3
(as `TEMP` sets `temp_in_kelvin`) -/
def twins : List Line := [.raw 0 none, .card 7 (some 4), .atom 5 1, .atom 5 2, .raw 9 (some 3)]

/-- the file is `twins` -/
example : Inv8 repaired (run repaired [.lookup, .delete 3, .insertAfter 0 5, .rename 2 8 6, .lookup]
    (read [.raw 0 none, .card 7 (some 4), .atom 5 1, .atom 5 2, .raw 9 (some 3)] init)) :=
  history_inv twins _ init

/-- the filtered views (hydrogen, riding, Q-peak lists) never show a deleted atom -/
theorem gone_not_in_view {s : St} (h : WF s) (p : Nat → Bool) {g : Nat} (hg : g ∈ s.gone) : g ∉ view p s :=
  fun hm => h.gone_out g hg (List.mem_filter.mp hm).1

/-- the state after a read is the state a fresh object has after the same read; `run c ops s` stands for any state,
`read` does not look at it (`read_eq`). `reinit` assigns every field of `St`; a field that `__init__` did not assign would
survive in `{ s with … }` and this would not be provable: `load` appends to the lists and assigns attributes on top of
what the state holds (`load_alone_keeps_old_attr`). -/
theorem reread_resets (c : Cfg) (f : List Line) (ops : List Op) (s : St) :
    (step c (.read f) (run c ops s)).1 = read f init := rfl

theorem run_append (c : Cfg) (ops1 ops2 : List Op) : ∀ s, run c (ops1 ++ ops2) s = run c ops2 (run c ops1 s) := by
  induction ops1 with
  | nil => exact fun _ => rfl
  | cons op ops ih => exact fun s => ih _

/-- what happens after a read does not depend on what happened before it -/
theorem history_independent (c : Cfg) (f : List Line) (before after : List Op) (s : St) :
    run c (before ++ .read f :: after) s = run c (.read f :: after) init := by
  rw [run_append]
  rfl

/-- `dictGet` on the assignments and `lastPos` / `specVal` on the file are the same "last one wins" recursion -/
theorem dictGet_slotsOf (k : Nat) (f : List Line) : ∀ i, dictGet k (slotsOf i f) = lastPos (Line.setsSlot k) i f := by
  induction f with
  | nil => exact fun _ => rfl
  | cons l ls ih =>
    intro i
    rw [lastPos, ← ih]
    rcases l with _ | _ | ⟨_, _ | _⟩
    case card.some => rfl
    all_goals cases h : dictGet k (slotsOf (i + 1) ls) <;> exact h

theorem dictGet_valsOf (k : Nat) (f : List Line) : dictGet k (valsOf f) = specVal f k := by
  induction f with
  | nil => rfl
  | cons l ls ih =>
    rw [specVal, ← ih]
    rcases l with ⟨_, _ | _⟩ | _ | _
    case raw.some => rfl
    all_goals cases h : dictGet k (valsOf ls) <;> exact h

def AttrsOf (f : List Line) (s : St) : Prop := s.slots = slotsOf 0 f ∧ s.vals = valsOf f

theorem attrsOf_read (f : List Line) (s : St) : AttrsOf f (read f s) := ⟨rfl, rfl⟩

theorem attrsOf_spec {f : List Line} {s : St} (h : AttrsOf f s) (k : Nat) :
    slotGet s k = specSlot f k ∧ valGet s k = specVal f k := by
  rw [slotGet, valGet, h.1, h.2]
  exact ⟨dictGet_slotsOf k f 0, dictGet_valsOf k f⟩

/-- no edit of the alphabet touches an attribute: only a read does -/
theorem attrsOf_step (c : Cfg) (op : Op) {f : List Line} {s : St} (h : AttrsOf f s) :
    AttrsOf (lastFile f [op]) (step c op s).1 := by
  have hrm : ∀ s n a, s.atoms[n]? = some a → AttrsOf f s → AttrsOf f (removeAt c s n a).1 := fun s n a _ h => by
    obtain ⟨_, _, e1, e2⟩ := removeAt_fields c s n a
    exact ⟨e1.trans h.1, e2.trans h.2⟩
  cases op with
  | delId k => exact delLoop_preserves hrm k _ 0 s h
  | delete a => exact step_delete_cases a s (fun _ => h) (fun k _ => delLoop_preserves hrm k _ 0 s h) fun _ h' => h'
  | read g => exact attrsOf_read g s
  | _ => exact h

theorem attrsOf_run (c : Cfg) (ops : List Op) : ∀ {f s}, AttrsOf f s → AttrsOf (lastFile f ops) (run c ops s) := by
  induction ops with
  | nil => exact fun h => h
  | cons op ops ih =>
    intro f s h
    have e : lastFile f (op :: ops) = lastFile (lastFile f [op]) ops := by cases op <;> rfl
    rw [e]
    exact ih (attrsOf_step c op h)

/-- after reading any file into an object in any previous state, every attribute (`shx.plan`,
`shx.temp_in_kelvin` …) is what the specification computes from that file alone: last instruction wins, none → the
constructor's default -/
theorem read_attrs_spec (c : Cfg) (f : List Line) (s : St) (k : Nat) :
    slotGet (step c (.read f) s).1 k = specSlot f k ∧ valGet (step c (.read f) s).1 k = specVal f k :=
  attrsOf_spec (attrsOf_read f s) k

example : slotGet (read twins (read [.card 1 (some 4), .card 2 (some 5), .raw 6 (some 3)] init)) 5 = none ∧
    slotGet (read twins init) 4 = some 1 ∧ valGet (read twins (read [.raw 6 (some 2)] init)) 2 = none := by decide

/-- after any history that starts with a read, every attribute is what the specification computes
from the file read LAST: nothing of an earlier file is handed out, in particular not where the last file lacks the
instruction -/
theorem attrs_history (c : Cfg) (f : List Line) (ops : List Op) (s0 : St) (k : Nat) :
    slotGet (run c ops (read f s0)) k = specSlot (lastFile f ops) k ∧
    valGet (run c ops (read f s0)) k = specVal (lastFile f ops) k :=
  attrsOf_spec (attrsOf_run c ops (attrsOf_read f s0)) k

/-- `twins`, an edit, then a file with neither instruction: both attributes are back at their defaults -/
example : slotGet (run repaired [.delete 2, .read [.raw 0 none, .atom 5 1], .rename 1 8 6] (read twins init)) 4 = none ∧
    valGet (run repaired [.delete 2, .read [.raw 0 none, .atom 5 1], .rename 1 8 6] (read twins init)) 3 = none :=
  ⟨(attrs_history _ _ _ _ 4).1, (attrs_history _ _ _ _ 3).2⟩

/-- the statement of `read_attrs_spec` for any way `rd` of reading a file (`read`; `load`: parsing without the
constructor re-run) -/
def AttrsSpecStatement (rd : List Line → St → St) : Prop :=
  ∀ (f : List Line) (s : St) (k : Nat), slotGet (rd f s) k = specSlot f k ∧ valGet (rd f s) k = specVal f k

theorem attrs_spec_read : AttrsSpecStatement read := fun f s k => read_attrs_spec repaired f s k

/-- parsing alone keeps the scalar of the previous file where the new file lacks the instruction: `twins` sets
attribute 3, the second file does not -/
theorem load_alone_keeps_old_attr : ¬ AttrsSpecStatement load :=
  fun h => absurd (h [.raw 0 none, .atom 5 1] (read twins init) 3).2 (by decide)

/-- … and keeps handing out the instruction object of the previous file, which the new file does not hold: the last
clause of `Inv8` fails (object 9 of a 10-line file, then a 2-line file without the instruction) -/
theorem parse_without_reinit_fails_on : ¬ ∀ (f : List Line) (s : St), WF s → Inv8 repaired (load f s) :=
  fun h => absurd (h [.raw 0 none, .atom 5 1]
    (read [.raw 0 none, .raw 0 none, .raw 0 none, .raw 0 none, .raw 0 none, .raw 0 none, .raw 0 none, .raw 0 none,
           .raw 0 none, .card 7 (some 4)] init) (wf_read _ _)).2.2.2.2.2.2 (by decide)

theorem gone_mono_delLoop (c : Cfg) (key g fuel n : Nat) (s : St) (h : g ∈ s.gone) : g ∈ (delLoop c key fuel n s).1.gone :=
  delLoop_preserves (P := (g ∈ ·.gone))
    (fun s n a _ hg => by rw [(removeAt_fields c s n a).2.1]; exact List.mem_cons_of_mem _ hg) key fuel n s h

theorem delLoop_hits {a m : Nat} (key fuel n : Nat) (s : St) (h : WF s) (hm : s.atoms[m]? = some a)
    (hk : atomid repaired s a = key) (h1 : n ≤ m) (h2 : m < n + fuel) : a ∈ (delLoop repaired key fuel n s).1.gone := by
  fun_induction delLoop repaired key fuel n s with
  | case1 => exact absurd h2 (Nat.not_lt.mpr h1)
  | case2 fuel n s hn =>
    have hlt := Nat.lt_of_lt_of_le (List.getElem?_eq_some_iff.mp hm).1 (List.getElem?_eq_none_iff.mp hn)
    exact absurd hlt (Nat.not_lt.mpr h1)
  | case3 fuel n s b hn hb s' hra => rw [removeAt_repaired h hn] at hra; cases hra
  | case4 fuel n s b hn hb s' hra =>
    -- the atom removed here has the id `key`, as `a` has: it is `a`
    have hg := (removeAt_fields repaired s n b).2.1
    rw [hra, atomid_inj h (List.mem_of_getElem? hn) (List.mem_of_getElem? hm) ((eq_of_beq hb).trans hk.symm)] at hg
    exact gone_mono_delLoop _ _ _ _ _ _ (hg ▸ List.mem_cons_self)
  | case5 fuel n s b hn hb ih =>
    have hne : n ≠ m := fun e => hb (by rw [e, hm] at hn; cases hn; simpa using hk)
    exact ih h hm hk (Nat.lt_of_le_of_ne h1 hne) (by omega)

theorem delItem_hits {s : St} (h : WF s) {a : Nat} (ha : a ∈ s.atoms) :
    a ∈ (delItem repaired (atomid repaired s a) s).1.gone := by
  obtain ⟨m, hm⟩ := List.getElem?_of_mem ha
  have := (List.getElem?_eq_some_iff.mp hm).1
  exact delLoop_hits _ _ 0 s h hm rfl (Nat.zero_le m) (by omega)

/-- `a.delete()` on an atom of a consistent state removes that atom: afterwards it is
recorded as deleted and absent from the atom list and the file (hence, by the `gone` clause of `Inv8` and
`gone_not_in_view`, from the name index and every filtered view) -/
theorem delete_removes_requested {s : St} (h : WF s) {a : Nat} (ha : a ∈ s.atoms) :
    let s' := (step repaired (.delete a) s).1
    a ∈ s'.gone ∧ a ∉ s'.atoms ∧ Entry.atom a ∉ s'.res := by
  have hi := (h.atomid_spec ha).1
  have hg : a ∈ (step repaired (.delete a) s).1.gone :=
    step_delete_cases (Q := (a ∈ ·.gone)) a s (fun h0 => by rw [hi] at h0; cases h0)
      (fun k hk => by rw [hi] at hk; cases hk; exact delItem_hits h ha) fun _ h' => h'
  exact ⟨hg, (wf_step _ s h).gone_absent hg⟩

/-- the same for `del shx.atoms[a.atomid]` -/
theorem delId_removes_requested {s : St} (h : WF s) {a : Nat} (ha : a ∈ s.atoms) :
    let s' := (step repaired (.delId (atomid repaired s a)) s).1
    a ∈ s'.gone ∧ a ∉ s'.atoms ∧ Entry.atom a ∉ s'.res :=
  ⟨delItem_hits h ha, (wf_step _ s h).gone_absent (delItem_hits h ha)⟩

/-- one round of the loop, whether it removes an atom (`L' < L`) or not (`L' = L`), uses up one unit of the bound -/
theorem fuel_step {L L' n f : Nat} (hle : L' ≤ L) (hlt : n < L) (h : L - n < f + 1) : L' - (n + 1) < f :=
  calc L' - (n + 1) ≤ L - n - 1 := Nat.sub_le_sub_right hle (n + 1)
    _ < f := Nat.sub_lt_right_of_lt_add (Nat.sub_pos_of_lt hlt) h

/-- with more than `len(all_atoms) - n` steps of fuel the modelled `for … enumerate(all_atoms)` loop
ends because the list is exhausted, never because the fuel is: any two such amounts give the same result. `delItem`
starts with `len + 1`. -/
theorem delLoop_fuel (c : Cfg) (key : Nat) : ∀ (f1 f2 n : Nat) (s : St),
    s.atoms.length - n < f1 → s.atoms.length - n < f2 → delLoop c key f1 n s = delLoop c key f2 n s := by
  intro f1
  induction f1 with
  | zero => omega
  | succ f1 ih =>
    intro f2 n s h1 h2
    obtain _ | f2 := f2
    · omega
    rw [delLoop, delLoop]
    split
    · rfl
    · next a hn =>
      have hlt := (List.getElem?_eq_some_iff.mp hn).1
      split
      · have hlen := (removeAt_fields c s n a).1
        split
        · rfl
        · next s' hra =>
          rw [hra] at hlen
          have hle : s'.atoms.length ≤ s.atoms.length := hlen ▸ List.length_eraseIdx_le ..
          exact ih f2 (n + 1) s' (fuel_step hle hlt h1) (fuel_step hle hlt h2)
      · exact ih f2 (n + 1) s (fuel_step (Nat.le_refl _) hlt h1) (fuel_step (Nat.le_refl _) hlt h2)

def HistoryInvStatement (c : Cfg) : Prop := ∀ (f : List Line) (ops : List Op) (s0 : St), Inv8 c (run c ops (read f s0))

theorem history_inv_repaired : HistoryInvStatement repaired := history_inv

/-- both twins report the position of the first one -/
theorem snapshot_twins_share_atomid :
    atomid snapshot (read twins init) 2 = 2 ∧ atomid snapshot (read twins init) 3 = 2 := by decide

theorem snapshot_delete_second_deletes_first :
    (step snapshot (.delete 3) (read twins init)).1.atoms = [3] ∧
    (step snapshot (.delete 3) (read twins init)).1.res = [.raw 0, .card 1, .atom 3, .raw 9] := by decide

/-- after a look-up has filled the name cache, a renamed atom is not found under its new name (8) and is still
found under its old one (1) -/
theorem snapshot_rename_stale :
    byName (run snapshot [.lookup, .rename 2 8 6] (read twins init)) 8 = none ∧
    byName (run snapshot [.lookup, .rename 2 8 6] (read twins init)) 1 = some 2 := by decide

theorem history_inv_fails_on_snapshot : ¬ HistoryInvStatement snapshot :=
  fun h => absurd (h twins [] init) (by decide)

/-- search by identity alone does not repair the stale name cache, and vice versa: each fix is needed -/
theorem history_inv_fails_without_rename_fix : ¬ HistoryInvStatement { identSearch := true, renameClears := false } :=
  fun h => absurd (h twins [.lookup, .rename 2 8 6] init) (by decide)

theorem history_inv_fails_without_ident_fix : ¬ HistoryInvStatement { identSearch := false, renameClears := true } :=
  fun h => absurd (h twins [] init) (by decide)

/-- on a file without text-equal lines and a history without renames the snapshot code keeps the property -/
example : Inv8 snapshot (run snapshot [.lookup, .delete 3, .insertAfter 0 4]
    (read [.raw 0 none, .card 7 (some 4), .atom 5 1, .atom 6 2, .raw 9 (some 3)] init)) := by decide

/-- a plain text line equal to an atom's line (`add_line(pos, str(atom))`) placed before the atom takes over the
atom's reported position in the snapshot code -/
theorem snapshot_raw_line_shadows_atom :
    indexOf snapshot (run snapshot [.insertAfter 0 5]
        (read [.raw 0 none, .card 7 (some 4), .atom 5 1, .atom 6 2, .raw 9 (some 3)] init)) (.atom 2)
      = some 1 ∧
    (run snapshot [.insertAfter 0 5]
        (read [.raw 0 none, .card 7 (some 4), .atom 5 1, .atom 6 2, .raw 9 (some 3)] init)).res[1]? = some (.raw 5) := by
  decide

example : Inv8 repaired (run repaired [.lookup, .rename 2 8 6, .delete 3] (read twins init)) := history_inv _ _ _

end Shelx.C08
