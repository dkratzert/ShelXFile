/-
  C03 — property theorems (model and specification: ShelxModel/C03.lean).

  Quantified over ALL files (lists of abstract lines, no bound on length, any interleaving of RESI / PART /
  AFIX / FRAG / FEND / HKLF / END / atom lines). The model keeps Python's shared PART/AFIX/RESI objects in a
  heap and reads every atom's attributes through its references AFTER the whole file was parsed; the
  specification has neither state nor heap: per atom it looks backwards for the instruction in force.
  All that is said of the atom list rests on one fold invariant (`Inv`), the views of atoms.py included
  (`derived_views`); element lookup through the SFAC table, the atom counts, RESI decoding and include files are
  independent of it.
-/
import ShelxModel.C03

namespace Shelx.C03

/-- `stepT` only adds heap objects and changes none (`stepBug`, the code before the fixes, did), so what an atom
    reads through its references stays the same however the file goes on. -/
structure Extends (s s' : State) : Prop where
  parts : s.parts <+: s'.parts
  afixes : s.afixes <+: s'.afixes
  resis : s.resis <+: s'.resis

theorem stepT_atom (t : Nat → Bool) (s : State) (a : AtomLine) :
    stepT t s (.atom a) = { s with atoms := s.atoms ++ if optTruthy t s.frag then [] else [mkAtomT t s a] } := by
  rw [stepT]
  split
  · rw [List.append_nil]
  · rfl

theorem stepT_extends (t : Nat → Bool) (s : State) (l : Line) : Extends s (stepT t s l) := by
  cases l with
  | atom a => rw [stepT_atom]; exact ⟨List.prefix_rfl, List.prefix_rfl, List.prefix_rfl⟩
  | _ => constructor <;> simp only [stepT, resetCtx, List.prefix_rfl, List.prefix_append]

theorem getElem?_of_prefix {α} {l l' : List α} {i : Nat} {v : α} (hp : l <+: l') (h : l[i]? = some v) :
    l'[i]? = some v := by
  obtain ⟨m, rfl⟩ := hp
  rw [List.getElem?_append_left (List.getElem?_eq_some_iff.mp h).1, h]

theorem getElem?_snoc_length {α} (l : List α) (x : α) : (l ++ [x])[l.length]? = some x :=
  List.getElem?_concat_length

theorem afixMn_snoc (l : List AfixObj) (mn : Int) : afixMn (l ++ [⟨mn⟩]) (some l.length) = some mn :=
  congrArg (Option.map AfixObj.mn) (getElem?_snoc_length l ⟨mn⟩)

theorem afixMn_of_prefix {l l' : List AfixObj} {r : Option Nat} {v : Int} (hp : l <+: l')
    (h : afixMn l r = some v) : afixMn l' r = some v := by
  cases r with
  | none => exact h
  | some i =>
    obtain ⟨a, ha, hv⟩ := Option.map_eq_some_iff.mp h
    exact Option.map_eq_some_iff.mpr ⟨a, getElem?_of_prefix hp ha, hv⟩

theorem observeAtom_extends {s s' : State} {a : AtomRec} {o : AtomObs} (hx : Extends s s')
    (h : observeAtom s a = some o) : observeAtom s' a = some o := by
  unfold observeAtom at h ⊢
  split at h
  next hp hr hm =>
    rw [getElem?_of_prefix hx.parts hp, getElem?_of_prefix hx.resis hr, afixMn_of_prefix hx.afixes hm]
    exact h
  next => cases h

theorem observe_extends {s s' : State} {acc : List AtomObs} (hx : Extends s s') (hat : s'.atoms = s.atoms)
    (h : observe s = acc.map some) : observe s' = acc.map some := by
  rw [← h, observe, hat]
  refine List.map_congr_left fun a ha => ?_
  have hm : observeAtom s a ∈ acc.map some := h ▸ List.mem_map_of_mem (f := observeAtom s) ha
  obtain ⟨o, _, ho⟩ := List.mem_map.mp hm
  exact (observeAtom_extends hx ho.symm).trans ho

/-- The parser state after the lines `before` (nearest first) were read, `acc` being the atoms the specification
    lists for them. -/
structure Inv (s : State) (before : List Line) (acc : List AtomObs) : Prop where
  part : s.parts[s.part]? = some (specPart before)
  resi : s.resis[s.resi]? = some (specResi before)
  afix : afixMn s.afixes s.afix = some (specAfix before)
  frag : optTruthy cmdTruthy s.frag = inFrag before
  hklf : optTruthy cmdTruthy s.hklf = before.any isHklf
  ended : s.ended = before.any isFin
  obs : observe s = acc.map some

theorem inv_init : Inv init [] [] := by
  constructor <;> rfl

theorem any_barrier (before : List Line) :
    before.any isBarrier = (before.any isHklf || before.any isFin) := by
  induction before with
  | nil => rfl
  | cons l ls ih =>
    simp only [List.any_cons, ih, isBarrier]
    cases isHklf l <;> cases isFin l <;> cases ls.any isHklf <;> cases ls.any isFin <;> rfl

theorem pad6_eq_specU {u : List Rat} (h : u.length ≤ 6) : pad6 u = specU u := by
  simp only [pad6, specU]
  rw [List.take_of_length_le h]

theorem observe_mkAtom {s : State} {before : List Line} {acc : List AtomObs} {a : AtomLine}
    (h : Inv s before acc) (hok : lineOK before (.atom a) = true) :
    observeAtom s (mkAtom s a) = some (specAtom before a) := by
  simp only [lineOK, Bool.and_eq_true, decide_eq_true_eq] at hok
  obtain ⟨hu, hq⟩ := hok
  -- the code's Q-peak rule (peak shaped ∧ HKLF seen, or END seen) against the property's (listed after HKLF or END)
  have hq' : ((peakShaped (pad6 a.u) && optTruthy cmdTruthy s.hklf) || s.ended) = before.any isBarrier := by
    rw [any_barrier, h.hklf, h.ended]
    exact (by decide : ∀ k f p : Bool, (!k || f || p) = true → ((p && k) || f) = (k || f)) _ _ _ hq
  rw [pad6_eq_specU hu] at hq'
  simp only [observeAtom, mkAtom, mkAtomT, h.part, h.resi, h.afix, specAtom, pad6_eq_specU hu, hq']

theorem observe_step {s : State} {before : List Line} {acc : List AtomObs} {l : Line}
    (h : Inv s before acc) (hok : lineOK before l = true) :
    observe (step s l) = (acc ++ contrib before l).map some := by
  cases l with
  | atom a =>
    rw [step, stepT_atom, contrib, h.frag, List.map_append, ← h.obs]
    -- `observeAtom` does not look at `atoms`: the old entries are read as in `s`
    refine (List.map_append ..).trans (congrArg (observe s ++ ·) ?_)
    split
    · rfl
    · exact congrArg ([·]) (observe_mkAtom (s := s) h hok)
  | _ => exact (List.append_nil acc).symm ▸ observe_extends (stepT_extends cmdTruthy s _) rfl h.obs

/-- Once the kind of line is known, `step`, the backwards scans and the flag tests all evaluate, so a field the line
    does not touch is the old one (`h with`); each row lists what the line changes. -/
theorem step_inv {s : State} {before : List Line} {acc : List AtomObs} {l : Line}
    (h : Inv s before acc) (hok : lineOK before l = true) :
    Inv (step s l) (l :: before) (acc ++ contrib before l) := by
  have obs := observe_step h hok
  cases l with
  | resi c n => exact { h with resi := getElem?_snoc_length _ _, obs }
  | part n f => exact { h with part := getElem?_snoc_length _ _, obs }
  | afix mn => exact { h with afix := afixMn_snoc _ _, obs }
  | frag np | fend => exact { h with frag := rfl, obs }
  | hklf np =>
    exact { h with part := getElem?_snoc_length _ _, resi := getElem?_snoc_length _ _, afix := afixMn_snoc _ _,
                   hklf := rfl, obs }
  | fin =>
    exact { h with part := getElem?_snoc_length _ _, resi := getElem?_snoc_length _ _, afix := afixMn_snoc _ _,
                   ended := rfl, obs }
  | other => exact { h with obs }
  | atom a =>
    rw [step, stepT_atom] at obs ⊢
    exact { h with obs }

/-- Reading on through any valid continuation `rest` of `before` keeps `Inv`: the running PART / RESI / AFIX objects
    hold the instruction in force, the flags say whether the reader stands inside FRAG … FEND and whether HKLF / END
    were passed, and the atoms listed so far, read through the heap as it is now, are the specification's.
    Everything said of `run` is this at `init`. -/
theorem context_invariant (rest : List Line) (s : State) (before : List Line) (acc : List AtomObs)
    (h : Inv s before acc) (hv : validFrom before rest = true) :
    Inv (rest.foldl step s) (rest.reverse ++ before) (acc ++ specFrom before rest) := by
  induction rest generalizing s before acc with
  | nil => simpa [specFrom] using h
  | cons l rest ih =>
    simp only [validFrom, Bool.and_eq_true] at hv
    have := ih _ _ _ (step_inv h hv.1) hv.2
    simpa [specFrom, List.append_assoc] using this

/-- For every valid file, the atoms of the parsed file, each read through its PART / AFIX / RESI references after
    parsing finished, are exactly the specification's atoms, in file order (no atom lost, none added, no dangling
    reference). -/
theorem atoms_match_spec (file : List Line) (hv : valid file = true) :
    observe (run file) = (specAtoms file).map some :=
  (context_invariant file init [] [] inv_init hv).obs

/-- whatever files the same `Shelxfile` object read before (valid or not), the atoms after the last read are the
    specification's atoms of the last file alone -/
theorem last_read_only (earlier : List (List Line)) (file : List Line) (hv : valid file = true) :
    observe (readHistory (earlier ++ [file])) = (specAtoms file).map some := by
  simp only [readHistory, List.foldl_append, List.foldl_cons, List.foldl_nil]
  exact atoms_match_spec file hv

/-- the running context after any valid prefix is the instruction in force at that point -/
theorem context_after_prefix (pre : List Line) (hv : valid pre = true) :
    (run pre).parts[(run pre).part]? = some (specPart pre.reverse) ∧
    (run pre).resis[(run pre).resi]? = some (specResi pre.reverse) ∧
    afixMn (run pre).afixes (run pre).afix = some (specAfix pre.reverse) := by
  have h := context_invariant pre init [] [] inv_init hv
  simp only [List.append_nil] at h
  exact ⟨h.part, h.resi, h.afix⟩

/-- PART 2 with occupancy 31 left open at HKLF, a residue, a riding hydrogen, a FRAG block followed by an atom,
    a peak between HKLF and END and one after END -/
def demoFile : List Line :=
  [.part 2 31, .resi "TOL" 3, .atom ⟨0, 1, 11, [4/100]⟩, .afix 43, .atom ⟨1, 2, 11, [-12/10]⟩, .frag 7, .atom ⟨2, 1, 11, []⟩,
   .fend, .atom ⟨3, 3, 21/2, [2/100, 3/100, 4/100, -2/1000, 3/1000, -4/1000]⟩, .hklf 1, .atom ⟨4, 1, 11, [5/100, 3/2]⟩, .fin,
   .other, .atom ⟨5, 1, 11, [5/100, 6/5]⟩]

example : valid demoFile = true := by decide +kernel

example : specAtoms demoFile =
    [⟨0, 1, 31, [4/100, 0, 0, 0, 0, 0], 2, 0, 3, "TOL", false⟩,
     ⟨1, 2, 31, [-12/10, 0, 0, 0, 0, 0], 2, 43, 3, "TOL", false⟩,
     ⟨3, 3, 31, [2/100, 3/100, 4/100, -2/1000, 3/1000, -4/1000], 2, 43, 3, "TOL", false⟩,
     ⟨4, 1, 11, [5/100, 3/2, 0, 0, 0, 0], 0, 0, 0, "", true⟩,
     ⟨5, 1, 11, [5/100, 6/5, 0, 0, 0, 0], 0, 0, 0, "", true⟩] := by decide +kernel

example : observe (run demoFile) = (specAtoms demoFile).map some := atoms_match_spec demoFile (by decide +kernel)

/-- read after another file that leaves a PART and a residue open and ends without END -/
example : observe (readHistory ([[.resi "BNZ" 7, .part 1 41, .atom ⟨9, 3, 11, [4/100]⟩]] ++ [demoFile])) =
    (specAtoms demoFile).map some :=
  last_read_only _ demoFile (by decide +kernel)

/-- every instruction in its shortest form: bare `FRAG` (all seven parameters at their defaults), bare `HKLF`,
    `RESI` without class and number (back to residue 0), an atom line without occupation code and U -/
def bareFile : List Line :=
  [.resi "TOL" 3, .part 1 21, .atom ⟨0, 1, 11, []⟩, .frag 0, .atom ⟨1, 1, 11, []⟩, .atom ⟨2, 3, 11, []⟩, .fend,
   .atom ⟨3, 1, 21/2, []⟩, .resi "" 0, .atom ⟨4, 2, 11, [-3/2]⟩, .hklf 0, .atom ⟨5, 1, 11, [5/100, 3/2]⟩, .fin,
   .atom ⟨6, 1, 11, [5/100, 6/5]⟩]

example : valid bareFile = true := by decide +kernel

example : specAtoms bareFile =
    [⟨0, 1, 21, [0, 0, 0, 0, 0, 0], 1, 0, 3, "TOL", false⟩,
     ⟨3, 1, 21, [0, 0, 0, 0, 0, 0], 1, 0, 3, "TOL", false⟩,
     ⟨4, 2, 21, [-3/2, 0, 0, 0, 0, 0], 1, 0, 0, "", false⟩,
     ⟨5, 1, 11, [5/100, 3/2, 0, 0, 0, 0], 0, 0, 0, "", true⟩,
     ⟨6, 1, 11, [5/100, 6/5, 0, 0, 0, 0], 0, 0, 0, "", true⟩] := by decide +kernel

example : observe (run bareFile) = (specAtoms bareFile).map some := atoms_match_spec bareFile (by decide +kernel)

/-- a FRAG object that is false lets its coordinate lines into the atom list -/
theorem truthiness_needed_frag (t : Nat → Bool) (np : Nat) (a : AtomLine) (h : t np = false) :
    observe (runT t [.frag np, .atom a]) ≠ (specAtoms [.frag np, .atom a]).map some := by
  -- one atom against none: the test `if self.frag:` fails on the false object, so the code takes the atom line
  have hcode : (runT t [.frag np, .atom a]).atoms = [mkAtomT t (stepT t init (.frag np)) a] := by
    show (if t np = true then _ else _ : State).atoms = _
    rw [h]
    rfl
  have hspec : specAtoms [.frag np, .atom a] = [] := rfl
  rw [hspec, observe, hcode]
  exact List.cons_ne_nil _ _

/-- an HKLF object that is false leaves the peaks listed between HKLF and END unmarked -/
theorem truthiness_needed_hklf (t : Nat → Bool) (np : Nat) (a : AtomLine) (h : t np = false) :
    observe (runT t [.hklf np, .atom a]) ≠ (specAtoms [.hklf np, .atom a]).map some := by
  intro hc
  have hq : [some ((peakShaped (pad6 a.u) && t np) || false)] = [some true] :=
    congrArg (List.map (Option.map AtomObs.qpeak)) hc
  rw [h, Bool.and_false] at hq
  cases hq

/-- a truth rule that calls every form of FRAG / HKLF true is the code's, so `atoms_match_spec` holds under it; with
    `truthiness_needed_frag/_hklf` the property holds under a rule exactly when the rule is always true -/
theorem truthy_rule_is_code (t : Nat → Bool) (ht : ∀ np, t np = true) (file : List Line) (hv : valid file = true) :
    observe (runT t file) = (specAtoms file).map some := by
  obtain rfl : t = cmdTruthy := funext ht
  exact atoms_match_spec file hv

/-- bare `FRAG` and bare `HKLF` under `Command.__len__`-truthiness -/
theorem len_truthiness_fails_on :
    observe (runT lenTruthy [.frag 0, .atom ⟨0, 1, 11, []⟩]) ≠ (specAtoms [.frag 0, .atom ⟨0, 1, 11, []⟩]).map some ∧
    observe (runT lenTruthy [.hklf 0, .atom ⟨0, 1, 11, [5/100, 3/2]⟩]) ≠
      (specAtoms [.hklf 0, .atom ⟨0, 1, 11, [5/100, 3/2]⟩]).map some :=
  ⟨truthiness_needed_frag lenTruthy 0 _ (by decide), truthiness_needed_hklf lenTruthy 0 _ (by decide)⟩

/-- with at least one parameter written the same rule is harmless (why `FRAG 17 …` / `HKLF 4` never showed it) -/
example : observe (runT lenTruthy demoFile) = (specAtoms demoFile).map some := by decide +kernel

/-- the smallest witness: at HKLF the code before the fixes (commit e475fe2) sets `part.n = 0` on the object the atom
    refers to, so the atom reads PART 0 after parsing. (The harness replays it on the implementation: its
    bounded-exhaustive stream has `PART 2 31` / three atoms / `HKLF`.) -/
def witnessFile : List Line := [.part 2 11, .atom ⟨0, 1, 11, [4/100]⟩, .hklf 1]

theorem bug_witness : observe (runBug witnessFile) ≠ (specAtoms witnessFile).map some := by decide +kernel

example : observe (run witnessFile) = (specAtoms witnessFile).map some := by decide +kernel

def isAtomLine : Line → Bool | .atom _ => true | _ => false
def isFragLine : Line → Bool | .frag _ => true | _ => false

theorem inFrag_cons_of_not_frag {l : Line} {before : List Line} (hl : isFragLine l = false)
    (hb : inFrag before = false) : inFrag (l :: before) = false := by
  cases l with
  | frag np => cases hl
  | fend => rfl
  | _ => exact hb

theorem specFrom_length_no_frag (file before : List Line) (hb : inFrag before = false)
    (hf : ∀ l ∈ file, isFragLine l = false) : (specFrom before file).length = (file.filter isAtomLine).length := by
  induction file generalizing before with
  | nil => rfl
  | cons l rest ih =>
    obtain ⟨hl, hr⟩ := List.forall_mem_cons.mp hf
    rw [specFrom, List.length_append, ih _ (inFrag_cons_of_not_frag hl hb) hr]
    cases l with
    | atom a => rw [contrib, hb]; exact Nat.add_comm 1 _
    | _ => exact Nat.zero_add _

/-- No atom line of a valid file is merged with or taken for another one, whether or not their columns agree: atom
    names are unique only within a residue / PART, and a solvent molecule pasted twice as start model is told apart
    by RESI number and PART alone. -/
theorem one_entry_per_atom_line (file : List Line) (hv : valid file = true) :
    (run file).atoms.length = (specAtoms file).length ∧
    ((∀ l ∈ file, isFragLine l = false) → (run file).atoms.length = (file.filter isAtomLine).length) := by
  have h := congrArg List.length (atoms_match_spec file hv)
  simp only [observe, List.length_map] at h
  exact ⟨h, fun hf => h.trans (specFrom_length_no_frag file [] rfl hf)⟩

/-- the same two lines in `RESI 1 MEOH / PART 1` and in `RESI 2 MEOH / PART 2` (equal tags: same names, same positions),
    and once more an atom of that name in residue 0 -/
def twinFile : List Line :=
  [.atom ⟨1, 1, 11, [5/100]⟩, .resi "MEOH" 1, .part 1 11, .atom ⟨0, 3, 21/2, [4/100]⟩, .atom ⟨1, 1, 21/2, [4/100]⟩, .part 0 11,
   .resi "MEOH" 2, .part 2 11, .atom ⟨0, 3, 21/2, [4/100]⟩, .atom ⟨1, 1, 21/2, [4/100]⟩, .part 0 11, .resi "" 0, .hklf 1, .fin]

example : valid twinFile = true := by decide +kernel

example : (observe (run twinFile)).length = 5 ∧
    (specAtoms twinFile).map (fun o => (o.tag, o.resiNum, o.part)) = [(1, 0, 0), (0, 1, 1), (1, 1, 1), (0, 2, 2), (1, 2, 2)] := by
  decide +kernel

/-- an `Atoms.append` that skips an atom equal (`Atom.__eq__`: the printed line) to one already in
    the list loses the copies in the second residue. -/
theorem eq_guard_fails_on : observe (runGuard twinFile) ≠ (specAtoms twinFile).map some := by decide +kernel

example : (runGuard twinFile).atoms.length = 3 := by decide +kernel

/-- in the code before the fixes an AFIX left open swallows HKLF (the `elif` chain is never entered), a peak listed
    between HKLF and END is then not a Q-peak, and the PART occupancy lands on it -/
theorem bug_witness_afix_hklf :
    observe (runBug [.part 1 21, .afix 43, .atom ⟨0, 2, 11, [-12/10]⟩, .hklf 1, .atom ⟨1, 1, 11, [5/100, 3/2]⟩]) ≠
      (specAtoms [.part 1 21, .afix 43, .atom ⟨0, 2, 11, [-12/10]⟩, .hklf 1, .atom ⟨1, 1, 11, [5/100, 3/2]⟩]).map some := by
  decide +kernel

/-- the hypothesis `valid` is needed (Q-peak rule): an ordinary atom line between HKLF and END is not flagged
    by the code (no peak height), while it is "listed after HKLF" -/
example : observe (run [.hklf 1, .atom ⟨0, 1, 11, [4/100]⟩]) ≠ (specAtoms [.hklf 1, .atom ⟨0, 1, 11, [4/100]⟩]).map some := by
  decide +kernel

/-- for a scattering-factor number inside the table, `Atom.element` is the entry at that
    (1-based) position -/
theorem element_lookup (table : List String) (n : Int) (h1 : 1 ≤ n) (h2 : n ≤ table.length) :
    some (sfac2elem table n) = specElement table n := by
  have hn0 : ¬ n = 0 := by omega
  have hneg : ¬ n < 0 := by omega
  have hi : ¬ n - 1 < 0 := by omega
  have hlt : (n - 1).toNat < table.length := by omega
  simp only [sfac2elem, specElement, hn0, hneg, hi, if_false, h1, if_true]
  rw [List.getElem?_eq_getElem hlt]

example : some (sfac2elem ["C", "H", "O"] 3) = specElement ["C", "H", "O"] 3 := element_lookup _ _ (by decide) (by decide)
/-- outside the table the code answers '' (0, too large) or counts from the end (negative) -/
example : sfac2elem ["C", "H", "O"] 4 = "" ∧ sfac2elem ["C", "H", "O"] 0 = "" ∧ sfac2elem ["C", "H", "O"] (-1) = "O" := by
  decide +kernel

theorem foldl_snoc_eq_append {α} (l t : List α) : l.foldl (fun t x => t ++ [x]) t = t ++ l := by
  induction l generalizing t with
  | nil => exact (List.append_nil t).symm
  | cons x r ih => rw [List.foldl_cons, ih, List.append_assoc]; rfl

/-- for any number of SFAC instructions of either form in any order, the table is the concatenation of their
    elements in file order -/
theorem sfac_table_spec (instrs : List SfacInstr) : sfacTable instrs = specSfacTable instrs := by
  rw [sfacTable, specSfacTable, List.flatMap_eq_foldl]
  congr
  funext t i
  cases i with
  | elems l => exact foldl_snoc_eq_append l t
  | explicit e => rfl

/-- scattering-factor number `n` names the `n`-th element counted over all SFAC instructions of the file -/
theorem element_of_atom (instrs : List SfacInstr) (n : Int) (h1 : 1 ≤ n) (h2 : n ≤ (specSfacTable instrs).length) :
    some (sfac2elem (sfacTable instrs) n) = specElement (specSfacTable instrs) n := by
  rw [sfac_table_spec]
  exact element_lookup _ n h1 h2

example : sfacTable [.elems ["O", "N"], .explicit "CU", .elems ["C", "H"]] = ["O", "N", "CU", "C", "H"] := by decide +kernel

/-- With the `none`s (dangling references) dropped, the observed list is the specification's atom list itself; each
    view in `derived_views` is a function of that list, which is all its proof uses. -/
theorem observed_atoms (file : List Line) (hv : valid file = true) :
    (observe (run file)).filterMap id = specAtoms file := by
  rw [atoms_match_spec file hv, List.filterMap_map]
  exact List.filterMap_some

/-- the views of atoms.py (hydrogen / Q-peak / riding lists, residue numbers, atoms of a class) computed from the
    parsed atoms are those of the specification's atom list -/
theorem derived_views (file : List Line) (hv : valid file = true) (table : List String) (c : String) :
    let got := viewAtoms table ((observe (run file)).filterMap id)
    let want := viewAtoms table (specAtoms file)
    View.hydrogenAtoms got = want.filter View.isHydrogen ∧
    View.qPeaks got = want.filter (·.obs.qpeak) ∧
    View.ridingAtoms got = (want.filter View.isHydrogen).filter (fun a => decide (a.obs.afix > 0)) ∧
    View.residues got = View.residues want ∧
    View.atomsInClass got c = View.atomsInClass want c := by
  rw [observed_atoms file hv]
  exact ⟨rfl, rfl, rfl, rfl, rfl⟩

theorem foldl_add_zero (l : List Rat) (h : ∀ x ∈ l, x = 0) (acc : Rat) : l.foldl (· + ·) acc = acc := by
  induction l with
  | nil => rfl
  | cons x t ih =>
    obtain ⟨rfl, ht⟩ := List.forall_mem_cons.mp h
    rw [List.foldl_cons, Rat.add_zero, ih ht]

theorem tailSum_zero (u : List Rat) (h : View.hasAniso u = false) : View.tailSum u = 0 := by
  refine foldl_add_zero _ (fun x hx => ?_) 0
  simpa using List.any_eq_false.mp h x hx

/-- full-strength statement of the anisotropic count — FALSE for the code (known finding
    `C03|view|n_aniso|with-qpeaks`: peaks, whose second "displacement value" is the peak height, are counted) -/
def nAnisoStatement : Prop := ∀ l : List ViewAtom, View.nAniso l = View.specNAniso l

/-- without Q-peaks in the list (and with anisotropic values whose sum exceeds the code's
    threshold 1e-5, true of every physically meaningful U) the count is the number of anisotropic atoms -/
theorem n_aniso_partial (l : List ViewAtom) (hq : ∀ a ∈ l, a.obs.qpeak = false)
    (hu : ∀ a ∈ l, View.hasAniso a.obs.uvals = true → View.tailSum a.obs.uvals > 1 / 100000) :
    View.nAniso l = View.specNAniso l := by
  refine congrArg List.length (List.filter_congr fun a ha => ?_)
  rw [hq a ha]
  cases hh : View.hasAniso a.obs.uvals with
  | true => simpa using hu a ha hh
  | false =>
    rw [tailSum_zero _ hh]
    decide +kernel

theorem n_aniso_fails_on : ¬ nAnisoStatement :=
  fun h => absurd (h [⟨⟨0, 1, 11, [5/100, 3/2, 0, 0, 0, 0], 0, 0, 0, "", true⟩, "C"⟩]) (by decide +kernel)

/-- full-strength statement of the isotropic count — FALSE for the code (known finding
    `C03|view|n_iso|with-zero-height-peaks`) -/
def nIsoStatement : Prop := ∀ l : List ViewAtom, View.nIso l = View.specNIso l

/-- the isotropic count is the number of non-peak atoms with a single displacement value,
    provided peaks carry a height and anisotropic values do not sum to exactly zero -/
theorem n_iso_partial (l : List ViewAtom) (hq : ∀ a ∈ l, a.obs.qpeak = true → View.hasAniso a.obs.uvals = true)
    (hu : ∀ a ∈ l, View.hasAniso a.obs.uvals = true → View.tailSum a.obs.uvals ≠ 0) :
    View.nIso l = View.specNIso l := by
  refine congrArg List.length (List.filter_congr fun a ha => ?_)
  cases hh : View.hasAniso a.obs.uvals with
  | true => simpa using hu a ha hh
  | false =>
    rw [tailSum_zero _ hh]
    cases hqq : a.obs.qpeak with
    | false => simp
    | true => rw [hq a ha hqq] at hh; cases hh

theorem n_iso_fails_on : ¬ nIsoStatement :=
  fun h => absurd (h [⟨⟨0, 1, 11, [5/100, 0, 0, 0, 0, 0], 0, 0, 0, "", true⟩, "C"⟩]) (by decide +kernel)

example : View.nAniso (viewAtoms ["C", "H", "O"] (specAtoms demoFile)) = 3 ∧
    View.specNAniso (viewAtoms ["C", "H", "O"] (specAtoms demoFile)) = 1 := by decide +kernel

/-- for every form the syntax allows, with arbitrary class, number, alias and chain, `_get_resi_definition` returns
    class = the word, number = the first number (or the one behind `chain:`), alias = the second -/
theorem resi_decode_spec (toks : List RTok) (h : resiFormOK toks = true) : resiDecode toks = resiSpec toks := by
  unfold resiFormOK at h
  split at h
  all_goals
    first
    | -- an arm `true` (a form without alias): `h` goes and both sides compute; the arm `false`: nothing is left
      (cases h <;> rfl)
    | -- a form with an alias: it stands behind a positive number, so the decoder's test `d.num > 0` holds there
      (simp only [resiDecode, List.foldl, Int.reduceGT, of_decide_eq_true h, ↓reduceIte]; rfl)

example : resiFormOK [.num 5, .word "TOL", .num 7] = true ∧
    resiDecode [.num 5, .word "TOL", .num 7] = { cls := "TOL", num := 5, alias := some 7, chain := none } := by
  decide +kernel
/-- outside the table of forms the decoder is order dependent: a non-positive number is overwritten by the "alias" -/
example : resiDecode [.num (-3), .word "X", .num 7] ≠ resiSpec [.num (-3), .word "X", .num 7] := by decide +kernel

/-! ### include files: `_find_included_files` (`splice`) against SHELXL's reading of `+name` lines as a relation
    (`Expands`) -/

theorem incNames_append (a b : List Item) : incNames (a ++ b) = incNames a ++ incNames b := by
  induction a with
  | nil => rfl
  | cons x t ih => cases x <;> simp [incNames, ih]

theorem expands_append (fs : FS) {xs o1 ys o2 : List Item} (h1 : Expands fs xs o1) (h2 : Expands fs ys o2) :
    Expands fs (xs ++ ys) (o1 ++ o2) := by
  induction h1 with
  | nil => exact h2
  | line t _ ih => exact .line t ih
  | inc n hc _ _ ih2 =>
    rw [List.cons_append, List.cons_append, List.append_assoc]
    exact .inc n hc ih2

/-- `seen` holds the names included so far, so none of them may come again in `out`; each step of the walk emits one
    item of `out`, so fuel for its length is enough. -/
theorem include_spliced (fs : FS) (fuel : Nat) : ∀ (seen : List String) (items out : List Item),
    Expands fs items out → (seen ++ incNames out).Nodup → out.length ≤ fuel →
    splice fs fuel seen items = some out := by
  induction fuel with
  | zero =>
    intro seen items out he _ hl
    -- `out` is empty, so `items` was
    obtain rfl := List.eq_nil_of_length_eq_zero (Nat.le_zero.mp hl)
    cases he
    rfl
  | succ fuel ih =>
    intro seen items out he hnd hl
    cases he with
    | nil => rfl
    | line t hr =>
      rw [splice, ih seen _ _ hr hnd (Nat.le_of_succ_le_succ hl)]
      rfl
    | @inc n rest o1 o2 hc hr =>
      -- `n` moves from the names still to come to the names seen
      have hnd' : (n :: seen ++ incNames (o1 ++ o2)).Nodup := List.perm_middle.nodup_iff.mp hnd
      have hns : n ∉ seen := fun hin => (List.nodup_cons.mp hnd').1 (List.mem_append_left _ hin)
      rw [splice, if_neg hns, ih (n :: seen) _ _ (expands_append fs hc hr) hnd' (Nat.le_of_succ_le_succ hl)]
      rfl

theorem spliceSpec_expands (fs : FS) (d : Nat) (items : List Item) (h : deepOK fs d items = true) :
    Expands fs items (spliceSpec fs d items) := by
  fun_induction spliceSpec fs d items with
  | case1 => exact .nil
  | case2 d t rest ih => exact .line t (ih (by simpa only [deepOK] using h))
  | case3 n rest ih =>
    simp only [deepOK, Bool.and_eq_true, List.isEmpty_iff] at h
    have hc : Expands fs ((fsGet fs n).getD []) [] := by rw [h.1]; exact .nil
    exact .inc n hc (ih h.2)
  | case4 d n rest ih1 ih2 =>
    simp only [deepOK, Bool.and_eq_true] at h
    exact .inc n (ih1 h.1) (ih2 h.2)

/-- whenever the nesting bound `d` suffices and no file is included twice (`_read_included_file` raises ValueError on
    the second `+name`), the parser's line list after `_find_included_files` is the executable specification's -/
theorem include_spliced_exec (fs : FS) (d fuel : Nat) (items : List Item) (hd : deepOK fs d items = true)
    (hnd : (incNames (spliceSpec fs d items)).Nodup) (hf : (spliceSpec fs d items).length ≤ fuel) :
    splice fs fuel [] items = some (spliceSpec fs d items) :=
  include_spliced fs fuel [] items _ (spliceSpec_expands fs d items hd) hnd hf

def demoFS : FS := [("a.ins", [.line 10, .inc "b.ins", .line 11]), ("b.ins", [.line 20])]

example : splice demoFS 10 [] [.line 0, .inc "a.ins", .line 1] =
    some [.line 0, .inc "a.ins", .line 10, .inc "b.ins", .line 20, .line 11, .line 1] := by decide +kernel
example : deepOK demoFS 2 [.line 0, .inc "a.ins", .line 1] = true := by simp [deepOK, demoFS, fsGet]
/-- the hypothesis "no file twice" is needed: the same file is never expanded a second time -/
example : splice demoFS 10 [] [.inc "b.ins", .inc "b.ins"] = none := by decide +kernel

end Shelx.C03
