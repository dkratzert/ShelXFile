/-
  C11 — table of real space-group settings (SYMM operators as SHELXL lists them: one representative per coset
  of the group modulo lattice centring and, for LATT > 0, the inversion at the origin; identity omitted).
  `order` is the number of operators modulo integer translations from International Tables A
  (point-group order × lattice points per cell); it is NOT computed from the operators.
  The lists were produced by closing the ITA generators of each group under composition and picking coset
  representatives; they are verified inside (validity, closure, order: see
  `tabulated_settings_valid_and_closed` in ShelxProps/C11.lean).
-/
import ShelxModel.C11Core

namespace Shelx.C11

/-- operator from its nine matrix entries (row by row) and its translation -/
def mkOp (a11 a12 a13 a21 a22 a23 a31 a32 a33 : Int) (x y z : Rat) : Op :=
  ⟨⟨a11, a12, a13, a21, a22, a23, a31, a32, a33⟩, ⟨x, y, z⟩⟩

def settings : List Setting := [
  ⟨"P1", -1, [], 1⟩,
  ⟨"P-1", 1, [], 2⟩,
  ⟨"P2(1)", -1, [mkOp (-1) 0 0 0 1 0 0 0 (-1)  0 (1/2) 0], 2⟩,
  ⟨"C2", -7, [mkOp (-1) 0 0 0 1 0 0 0 (-1)  0 0 0], 4⟩,
  ⟨"Pc", -1, [mkOp 1 0 0 0 (-1) 0 0 0 1  0 0 (1/2)], 2⟩,
  ⟨"Cc", -7, [mkOp 1 0 0 0 (-1) 0 0 0 1  0 0 (1/2)], 4⟩,
  ⟨"P2(1)/c", 1, [mkOp (-1) 0 0 0 1 0 0 0 (-1)  0 (1/2) (1/2)], 4⟩,
  ⟨"P2(1)/n", 1, [mkOp (-1) 0 0 0 1 0 0 0 (-1)  (1/2) (1/2) (1/2)], 4⟩,
  ⟨"C2/c", 7, [mkOp (-1) 0 0 0 1 0 0 0 (-1)  0 0 (1/2)], 8⟩,
  ⟨"I2/a", 2, [mkOp (-1) 0 0 0 1 0 0 0 (-1)  (1/2) 0 0], 8⟩,
  ⟨"B2/b", 6, [mkOp (-1) 0 0 0 (-1) 0 0 0 1  0 (1/2) 0], 8⟩,
  ⟨"A2/a", 5, [mkOp (-1) 0 0 0 (-1) 0 0 0 1  (1/2) 0 0], 8⟩,
  ⟨"P2(1)2(1)2(1)", -1, [mkOp (-1) 0 0 0 (-1) 0 0 0 1  (1/2) 0 (1/2),
     mkOp (-1) 0 0 0 1 0 0 0 (-1)  0 (1/2) (1/2),
     mkOp 1 0 0 0 (-1) 0 0 0 (-1)  (1/2) (1/2) 0], 4⟩,
  ⟨"Pna2(1)", -1, [mkOp (-1) 0 0 0 (-1) 0 0 0 1  0 0 (1/2),
     mkOp 1 0 0 0 (-1) 0 0 0 1  (1/2) (1/2) 0,
     mkOp (-1) 0 0 0 1 0 0 0 1  (1/2) (1/2) (1/2)], 4⟩,
  ⟨"Aba2", -5, [mkOp (-1) 0 0 0 (-1) 0 0 0 1  0 0 0,
     mkOp 1 0 0 0 (-1) 0 0 0 1  (1/2) (1/2) 0,
     mkOp (-1) 0 0 0 1 0 0 0 1  (1/2) (1/2) 0], 8⟩,
  ⟨"Fdd2", -4, [mkOp (-1) 0 0 0 (-1) 0 0 0 1  0 0 0,
     mkOp 1 0 0 0 (-1) 0 0 0 1  (1/4) (1/4) (1/4),
     mkOp (-1) 0 0 0 1 0 0 0 1  (1/4) (1/4) (1/4)], 16⟩,
  ⟨"Pnma", 1, [mkOp (-1) 0 0 0 (-1) 0 0 0 1  (1/2) 0 (1/2),
     mkOp (-1) 0 0 0 1 0 0 0 (-1)  0 (1/2) 0,
     mkOp 1 0 0 0 (-1) 0 0 0 (-1)  (1/2) (1/2) (1/2)], 8⟩,
  ⟨"Pbca", 1, [mkOp (-1) 0 0 0 (-1) 0 0 0 1  (1/2) 0 (1/2),
     mkOp (-1) 0 0 0 1 0 0 0 (-1)  0 (1/2) (1/2),
     mkOp 1 0 0 0 (-1) 0 0 0 (-1)  (1/2) (1/2) 0], 8⟩,
  ⟨"Cmca", 7, [mkOp (-1) 0 0 0 (-1) 0 0 0 1  0 (1/2) (1/2),
     mkOp (-1) 0 0 0 1 0 0 0 (-1)  0 (1/2) (1/2),
     mkOp 1 0 0 0 (-1) 0 0 0 (-1)  0 0 0], 16⟩,
  ⟨"Imma", 2, [mkOp (-1) 0 0 0 (-1) 0 0 0 1  0 (1/2) 0,
     mkOp (-1) 0 0 0 1 0 0 0 (-1)  0 (1/2) 0,
     mkOp 1 0 0 0 (-1) 0 0 0 (-1)  0 0 0], 16⟩,
  ⟨"Fddd", 4, [mkOp (-1) 0 0 0 (-1) 0 0 0 1  (3/4) (3/4) 0,
     mkOp (-1) 0 0 0 1 0 0 0 (-1)  (3/4) 0 (3/4),
     mkOp 1 0 0 0 (-1) 0 0 0 (-1)  0 (3/4) (3/4)], 32⟩,
  ⟨"P4(1)", -1, [mkOp 0 (-1) 0 1 0 0 0 0 1  0 0 (1/4),
     mkOp (-1) 0 0 0 (-1) 0 0 0 1  0 0 (1/2),
     mkOp 0 1 0 (-1) 0 0 0 0 1  0 0 (3/4)], 4⟩,
  ⟨"I4(1)/a", 2, [mkOp 0 (-1) 0 1 0 0 0 0 1  (3/4) (1/4) (1/4),
     mkOp (-1) 0 0 0 (-1) 0 0 0 1  (1/2) 0 (1/2),
     mkOp 0 1 0 (-1) 0 0 0 0 1  (3/4) (3/4) (3/4)], 16⟩,
  ⟨"I4(1)/a origin 1", -2, [mkOp 0 (-1) 0 1 0 0 0 0 1  0 (1/2) (1/4),
     mkOp (-1) 0 0 0 (-1) 0 0 0 (-1)  0 (1/2) (1/4),
     mkOp (-1) 0 0 0 (-1) 0 0 0 1  (1/2) (1/2) (1/2),
     mkOp 0 1 0 (-1) 0 0 0 0 (-1)  0 0 0,
     mkOp 0 1 0 (-1) 0 0 0 0 1  (1/2) 0 (3/4),
     mkOp 1 0 0 0 1 0 0 0 (-1)  (1/2) 0 (3/4),
     mkOp 0 (-1) 0 1 0 0 0 0 (-1)  (1/2) (1/2) (1/2)], 16⟩,
  ⟨"P4(2)/mnm", 1, [mkOp 0 (-1) 0 1 0 0 0 0 1  (1/2) (1/2) (1/2),
     mkOp (-1) 0 0 0 1 0 0 0 (-1)  (1/2) (1/2) (1/2),
     mkOp (-1) 0 0 0 (-1) 0 0 0 1  0 0 0,
     mkOp 0 1 0 1 0 0 0 0 (-1)  0 0 0,
     mkOp 0 (-1) 0 (-1) 0 0 0 0 (-1)  0 0 0,
     mkOp 0 1 0 (-1) 0 0 0 0 1  (1/2) (1/2) (1/2),
     mkOp 1 0 0 0 (-1) 0 0 0 (-1)  (1/2) (1/2) (1/2)], 16⟩,
  ⟨"I-42d", -2, [mkOp 0 1 0 (-1) 0 0 0 0 (-1)  0 0 0,
     mkOp (-1) 0 0 0 1 0 0 0 (-1)  (1/2) 0 (3/4),
     mkOp (-1) 0 0 0 (-1) 0 0 0 1  0 0 0,
     mkOp 0 (-1) 0 (-1) 0 0 0 0 1  (1/2) 0 (3/4),
     mkOp 0 1 0 1 0 0 0 0 1  0 (1/2) (1/4),
     mkOp 0 (-1) 0 1 0 0 0 0 (-1)  0 0 0,
     mkOp 1 0 0 0 (-1) 0 0 0 (-1)  (1/2) 0 (3/4)], 16⟩,
  ⟨"P3(1)", -1, [mkOp 0 (-1) 0 1 (-1) 0 0 0 1  0 0 (1/3),
     mkOp (-1) 1 0 (-1) 0 0 0 0 1  0 0 (2/3)], 3⟩,
  ⟨"R3", -3, [mkOp 0 (-1) 0 1 (-1) 0 0 0 1  0 0 0,
     mkOp (-1) 1 0 (-1) 0 0 0 0 1  0 0 0], 9⟩,
  ⟨"R-3", 3, [mkOp 0 (-1) 0 1 (-1) 0 0 0 1  0 0 0,
     mkOp (-1) 1 0 (-1) 0 0 0 0 1  0 0 0], 18⟩,
  ⟨"R3c", -3, [mkOp 0 (-1) 0 1 (-1) 0 0 0 1  0 0 0,
     mkOp 0 (-1) 0 (-1) 0 0 0 0 1  0 0 (1/2),
     mkOp (-1) 1 0 (-1) 0 0 0 0 1  0 0 0,
     mkOp (-1) 1 0 0 1 0 0 0 1  0 0 (1/2),
     mkOp 1 0 0 1 (-1) 0 0 0 1  0 0 (1/2)], 18⟩,
  ⟨"R-3c", 3, [mkOp 0 (-1) 0 1 (-1) 0 0 0 1  0 0 0,
     mkOp 0 1 0 1 0 0 0 0 (-1)  0 0 (1/2),
     mkOp (-1) 1 0 (-1) 0 0 0 0 1  0 0 0,
     mkOp 1 (-1) 0 0 (-1) 0 0 0 (-1)  0 0 (1/2),
     mkOp (-1) 0 0 (-1) 1 0 0 0 (-1)  0 0 (1/2)], 36⟩,
  ⟨"P3(1)21", -1, [mkOp 0 (-1) 0 1 (-1) 0 0 0 1  0 0 (1/3),
     mkOp 0 1 0 1 0 0 0 0 (-1)  0 0 0,
     mkOp (-1) 1 0 (-1) 0 0 0 0 1  0 0 (2/3),
     mkOp 1 (-1) 0 0 (-1) 0 0 0 (-1)  0 0 (2/3),
     mkOp (-1) 0 0 (-1) 1 0 0 0 (-1)  0 0 (1/3)], 6⟩,
  ⟨"P-31c", 1, [mkOp 0 (-1) 0 1 (-1) 0 0 0 1  0 0 0,
     mkOp 0 (-1) 0 (-1) 0 0 0 0 1  0 0 (1/2),
     mkOp (-1) 1 0 (-1) 0 0 0 0 1  0 0 0,
     mkOp (-1) 1 0 0 1 0 0 0 1  0 0 (1/2),
     mkOp 1 0 0 1 (-1) 0 0 0 1  0 0 (1/2)], 12⟩,
  ⟨"P6(1)", -1, [mkOp 1 (-1) 0 1 0 0 0 0 1  0 0 (1/6),
     mkOp 0 (-1) 0 1 (-1) 0 0 0 1  0 0 (1/3),
     mkOp (-1) 0 0 0 (-1) 0 0 0 1  0 0 (1/2),
     mkOp (-1) 1 0 (-1) 0 0 0 0 1  0 0 (2/3),
     mkOp 0 1 0 (-1) 1 0 0 0 1  0 0 (5/6)], 6⟩,
  ⟨"P6(3)/m", 1, [mkOp 1 (-1) 0 1 0 0 0 0 1  0 0 (1/2),
     mkOp 0 (-1) 0 1 (-1) 0 0 0 1  0 0 0,
     mkOp (-1) 0 0 0 (-1) 0 0 0 1  0 0 (1/2),
     mkOp (-1) 1 0 (-1) 0 0 0 0 1  0 0 0,
     mkOp 0 1 0 (-1) 1 0 0 0 1  0 0 (1/2)], 12⟩,
  ⟨"P6(3)mc", -1, [mkOp 1 (-1) 0 1 0 0 0 0 1  0 0 (1/2),
     mkOp 0 (-1) 0 (-1) 0 0 0 0 1  0 0 0,
     mkOp 0 (-1) 0 1 (-1) 0 0 0 1  0 0 0,
     mkOp (-1) 0 0 (-1) 1 0 0 0 1  0 0 (1/2),
     mkOp 1 (-1) 0 0 (-1) 0 0 0 1  0 0 (1/2),
     mkOp (-1) 0 0 0 (-1) 0 0 0 1  0 0 (1/2),
     mkOp (-1) 1 0 0 1 0 0 0 1  0 0 0,
     mkOp 1 0 0 1 (-1) 0 0 0 1  0 0 0,
     mkOp 0 1 0 (-1) 1 0 0 0 1  0 0 (1/2),
     mkOp (-1) 1 0 (-1) 0 0 0 0 1  0 0 0,
     mkOp 0 1 0 1 0 0 0 0 1  0 0 (1/2)], 12⟩,
  ⟨"P6/mmm", 1, [mkOp 1 (-1) 0 1 0 0 0 0 1  0 0 0,
     mkOp 0 1 0 1 0 0 0 0 (-1)  0 0 0,
     mkOp 0 (-1) 0 1 (-1) 0 0 0 1  0 0 0,
     mkOp 1 0 0 1 (-1) 0 0 0 (-1)  0 0 0,
     mkOp (-1) 1 0 0 1 0 0 0 (-1)  0 0 0,
     mkOp (-1) 0 0 0 (-1) 0 0 0 1  0 0 0,
     mkOp 1 (-1) 0 0 (-1) 0 0 0 (-1)  0 0 0,
     mkOp (-1) 0 0 (-1) 1 0 0 0 (-1)  0 0 0,
     mkOp 0 1 0 (-1) 1 0 0 0 1  0 0 0,
     mkOp (-1) 1 0 (-1) 0 0 0 0 1  0 0 0,
     mkOp 0 (-1) 0 (-1) 0 0 0 0 (-1)  0 0 0], 24⟩,
  ⟨"P2(1)3", -1, [mkOp 0 0 1 1 0 0 0 1 0  0 0 0,
     mkOp (-1) 0 0 0 (-1) 0 0 0 1  (1/2) 0 (1/2),
     mkOp 0 1 0 0 0 1 1 0 0  0 0 0,
     mkOp 0 0 (-1) (-1) 0 0 0 1 0  (1/2) 0 (1/2),
     mkOp 0 0 1 (-1) 0 0 0 (-1) 0  (1/2) (1/2) 0,
     mkOp 0 (-1) 0 0 0 (-1) 1 0 0  (1/2) 0 (1/2),
     mkOp 0 1 0 0 0 (-1) (-1) 0 0  (1/2) (1/2) 0,
     mkOp 0 (-1) 0 0 0 1 (-1) 0 0  0 (1/2) (1/2),
     mkOp 0 0 (-1) 1 0 0 0 (-1) 0  0 (1/2) (1/2),
     mkOp 1 0 0 0 (-1) 0 0 0 (-1)  (1/2) (1/2) 0,
     mkOp (-1) 0 0 0 1 0 0 0 (-1)  0 (1/2) (1/2)], 12⟩,
  ⟨"Pa-3", 1, [mkOp 0 0 1 1 0 0 0 1 0  0 0 0,
     mkOp (-1) 0 0 0 (-1) 0 0 0 1  (1/2) 0 (1/2),
     mkOp 0 1 0 0 0 1 1 0 0  0 0 0,
     mkOp 0 0 (-1) (-1) 0 0 0 1 0  (1/2) 0 (1/2),
     mkOp 0 0 1 (-1) 0 0 0 (-1) 0  (1/2) (1/2) 0,
     mkOp 0 (-1) 0 0 0 (-1) 1 0 0  (1/2) 0 (1/2),
     mkOp 0 1 0 0 0 (-1) (-1) 0 0  (1/2) (1/2) 0,
     mkOp 0 (-1) 0 0 0 1 (-1) 0 0  0 (1/2) (1/2),
     mkOp 0 0 (-1) 1 0 0 0 (-1) 0  0 (1/2) (1/2),
     mkOp 1 0 0 0 (-1) 0 0 0 (-1)  (1/2) (1/2) 0,
     mkOp (-1) 0 0 0 1 0 0 0 (-1)  0 (1/2) (1/2)], 24⟩,
  ⟨"I-43d", -2, [mkOp 0 0 1 1 0 0 0 1 0  0 0 0,
     mkOp (-1) 0 0 0 (-1) 0 0 0 1  (1/2) 0 (1/2),
     mkOp 0 1 0 1 0 0 0 0 1  (1/4) (1/4) (1/4),
     mkOp 0 1 0 0 0 1 1 0 0  0 0 0,
     mkOp 0 0 (-1) (-1) 0 0 0 1 0  (1/2) 0 (1/2),
     mkOp 1 0 0 0 0 1 0 1 0  (1/4) (1/4) (1/4),
     mkOp 0 0 1 (-1) 0 0 0 (-1) 0  (1/2) (1/2) 0,
     mkOp 0 (-1) 0 (-1) 0 0 0 0 1  (1/4) (3/4) (3/4),
     mkOp 0 0 1 0 1 0 1 0 0  (1/4) (1/4) (1/4),
     mkOp 0 (-1) 0 0 0 (-1) 1 0 0  (1/2) 0 (1/2),
     mkOp 0 1 0 0 0 (-1) (-1) 0 0  (1/2) (1/2) 0,
     mkOp (-1) 0 0 0 0 (-1) 0 1 0  (1/4) (3/4) (3/4),
     mkOp 0 (-1) 0 0 0 1 (-1) 0 0  0 (1/2) (1/2),
     mkOp 0 0 (-1) 1 0 0 0 (-1) 0  0 (1/2) (1/2),
     mkOp (-1) 0 0 0 0 1 0 (-1) 0  (3/4) (3/4) (1/4),
     mkOp 0 0 1 0 (-1) 0 (-1) 0 0  (3/4) (1/4) (3/4),
     mkOp 0 0 (-1) 0 (-1) 0 1 0 0  (1/4) (3/4) (3/4),
     mkOp 1 0 0 0 (-1) 0 0 0 (-1)  (1/2) (1/2) 0,
     mkOp (-1) 0 0 0 1 0 0 0 (-1)  0 (1/2) (1/2),
     mkOp 0 0 (-1) 0 1 0 (-1) 0 0  (3/4) (3/4) (1/4),
     mkOp 0 1 0 (-1) 0 0 0 0 (-1)  (3/4) (1/4) (3/4),
     mkOp 1 0 0 0 0 (-1) 0 (-1) 0  (3/4) (1/4) (3/4),
     mkOp 0 (-1) 0 1 0 0 0 0 (-1)  (3/4) (3/4) (1/4)], 48⟩,
  ⟨"Pm-3m", 1, [mkOp 0 0 1 1 0 0 0 1 0  0 0 0,
     mkOp 0 (-1) 0 1 0 0 0 0 1  0 0 0,
     mkOp 0 1 0 0 0 1 1 0 0  0 0 0,
     mkOp (-1) 0 0 0 0 1 0 1 0  0 0 0,
     mkOp 0 0 1 0 (-1) 0 1 0 0  0 0 0,
     mkOp (-1) 0 0 0 (-1) 0 0 0 1  0 0 0,
     mkOp 0 0 (-1) 0 1 0 1 0 0  0 0 0,
     mkOp 0 1 0 (-1) 0 0 0 0 1  0 0 0,
     mkOp 0 0 (-1) (-1) 0 0 0 1 0  0 0 0,
     mkOp 1 0 0 0 0 1 0 (-1) 0  0 0 0,
     mkOp 0 0 1 (-1) 0 0 0 (-1) 0  0 0 0,
     mkOp 1 0 0 0 0 (-1) 0 1 0  0 0 0,
     mkOp 0 (-1) 0 0 0 (-1) 1 0 0  0 0 0,
     mkOp 0 0 1 0 1 0 (-1) 0 0  0 0 0,
     mkOp 0 1 0 0 0 (-1) (-1) 0 0  0 0 0,
     mkOp 0 0 (-1) 1 0 0 0 (-1) 0  0 0 0,
     mkOp 0 (-1) 0 0 0 1 (-1) 0 0  0 0 0,
     mkOp 0 1 0 1 0 0 0 0 (-1)  0 0 0,
     mkOp 1 0 0 0 (-1) 0 0 0 (-1)  0 0 0,
     mkOp (-1) 0 0 0 1 0 0 0 (-1)  0 0 0,
     mkOp (-1) 0 0 0 0 (-1) 0 (-1) 0  0 0 0,
     mkOp 0 0 (-1) 0 (-1) 0 (-1) 0 0  0 0 0,
     mkOp 0 (-1) 0 (-1) 0 0 0 0 (-1)  0 0 0], 48⟩,
  ⟨"Ia-3d", 2, [mkOp 0 0 1 1 0 0 0 1 0  0 0 0,
     mkOp (-1) 0 0 0 (-1) 0 0 0 1  (1/2) 0 (1/2),
     mkOp 0 1 0 1 0 0 0 0 (-1)  (3/4) (1/4) (1/4),
     mkOp 0 1 0 0 0 1 1 0 0  0 0 0,
     mkOp 0 0 (-1) (-1) 0 0 0 1 0  (1/2) 0 (1/2),
     mkOp 1 0 0 0 0 1 0 (-1) 0  (3/4) (1/4) (1/4),
     mkOp 0 0 1 (-1) 0 0 0 (-1) 0  (1/2) (1/2) 0,
     mkOp 0 (-1) 0 (-1) 0 0 0 0 (-1)  (3/4) (3/4) (3/4),
     mkOp 0 0 (-1) 0 1 0 1 0 0  (1/4) (3/4) (1/4),
     mkOp 0 (-1) 0 0 0 (-1) 1 0 0  (1/2) 0 (1/2),
     mkOp 0 0 1 0 1 0 (-1) 0 0  (3/4) (1/4) (1/4),
     mkOp 0 1 0 0 0 (-1) (-1) 0 0  (1/2) (1/2) 0,
     mkOp (-1) 0 0 0 0 (-1) 0 (-1) 0  (3/4) (3/4) (3/4),
     mkOp 0 (-1) 0 1 0 0 0 0 1  (1/4) (3/4) (1/4),
     mkOp 0 (-1) 0 0 0 1 (-1) 0 0  0 (1/2) (1/2),
     mkOp 0 0 (-1) 1 0 0 0 (-1) 0  0 (1/2) (1/2),
     mkOp (-1) 0 0 0 0 1 0 1 0  (1/4) (3/4) (1/4),
     mkOp 0 0 (-1) 0 (-1) 0 (-1) 0 0  (3/4) (3/4) (3/4),
     mkOp 1 0 0 0 0 (-1) 0 1 0  (1/4) (1/4) (3/4),
     mkOp 0 0 1 0 (-1) 0 1 0 0  (1/4) (1/4) (3/4),
     mkOp 1 0 0 0 (-1) 0 0 0 (-1)  (1/2) (1/2) 0,
     mkOp (-1) 0 0 0 1 0 0 0 (-1)  0 (1/2) (1/2),
     mkOp 0 1 0 (-1) 0 0 0 0 1  (1/4) (1/4) (3/4)], 96⟩,
  ⟨"Fm-3m", 4, [mkOp 0 0 1 1 0 0 0 1 0  0 0 0,
     mkOp 0 (-1) 0 1 0 0 0 0 1  0 0 0,
     mkOp 0 1 0 0 0 1 1 0 0  0 0 0,
     mkOp (-1) 0 0 0 0 1 0 1 0  0 0 0,
     mkOp 0 0 1 0 (-1) 0 1 0 0  0 0 0,
     mkOp (-1) 0 0 0 (-1) 0 0 0 1  0 0 0,
     mkOp 0 0 (-1) 0 1 0 1 0 0  0 0 0,
     mkOp 0 1 0 (-1) 0 0 0 0 1  0 0 0,
     mkOp 0 0 (-1) (-1) 0 0 0 1 0  0 0 0,
     mkOp 1 0 0 0 0 1 0 (-1) 0  0 0 0,
     mkOp 0 0 1 (-1) 0 0 0 (-1) 0  0 0 0,
     mkOp 1 0 0 0 0 (-1) 0 1 0  0 0 0,
     mkOp 0 (-1) 0 0 0 (-1) 1 0 0  0 0 0,
     mkOp 0 0 1 0 1 0 (-1) 0 0  0 0 0,
     mkOp 0 1 0 0 0 (-1) (-1) 0 0  0 0 0,
     mkOp 0 0 (-1) 1 0 0 0 (-1) 0  0 0 0,
     mkOp 0 (-1) 0 0 0 1 (-1) 0 0  0 0 0,
     mkOp 0 1 0 1 0 0 0 0 (-1)  0 0 0,
     mkOp 1 0 0 0 (-1) 0 0 0 (-1)  0 0 0,
     mkOp (-1) 0 0 0 1 0 0 0 (-1)  0 0 0,
     mkOp (-1) 0 0 0 0 (-1) 0 (-1) 0  0 0 0,
     mkOp 0 0 (-1) 0 (-1) 0 (-1) 0 0  0 0 0,
     mkOp 0 (-1) 0 (-1) 0 0 0 0 (-1)  0 0 0], 192⟩
]

/-! ### the table cut into pieces, and slices of the generators of a setting: for evaluating the direct checks of
    C11Core (`specOK`, `closedUnder`) piece by piece. `settings_spec` (ShelxProps/Lemmas/C11Check.lean) evaluates the
    WHOLE table in one run and does not use them. -/

def tabA : List Setting := settings.take 30
def tabB : List Setting := (settings.drop 30).take 7
def tabC : List Setting := (settings.drop 37).take 3
/-- Pm-3m -/
def tabD : List Setting := (settings.drop 40).take 1
/-- Ia-3d -/
def tabE : List Setting := (settings.drop 41).take 1
/-- Fm-3m, the largest group (and whatever is appended to the table later) -/
def tabF : List Setting := settings.drop 42

/-- a slice of the generators of a setting (for checking the closure of a large group slice by slice with `closedUnder`) -/
def gensSlice (a n : Nat) (e : Setting) : List Op := ((gensOfSetting e).drop a).take n
/-- all generators from the `a`-th on -/
def gensFrom (a : Nat) (e : Setting) : List Op := (gensOfSetting e).drop a

end Shelx.C11
