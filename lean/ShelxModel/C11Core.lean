/-
  C11 — operators, specification and executable checkers (everything that does NOT depend on the table
  regenerated from cards.py, so that the expensive kernel checks over the tabulated settings are not redone when
  only `LATT.lattdict` changes). The model of the code is in ShelxModel/C11.lean.
-/


namespace Shelx.C11

/-! ### operators -/

structure Mat where
  a11 : Int
  a12 : Int
  a13 : Int
  a21 : Int
  a22 : Int
  a23 : Int
  a31 : Int
  a32 : Int
  a33 : Int
deriving DecidableEq, Repr

structure Vec where
  x : Rat
  y : Rat
  z : Rat
deriving DecidableEq, Repr

/-- `x' = m x + t` -/
structure Op where
  m : Mat
  t : Vec
deriving DecidableEq, Repr

def Mat.one : Mat := ⟨1, 0, 0, 0, 1, 0, 0, 0, 1⟩
def Mat.neg (a : Mat) : Mat := ⟨-a.a11, -a.a12, -a.a13, -a.a21, -a.a22, -a.a23, -a.a31, -a.a32, -a.a33⟩
def Mat.mul (a b : Mat) : Mat :=
  ⟨a.a11 * b.a11 + a.a12 * b.a21 + a.a13 * b.a31, a.a11 * b.a12 + a.a12 * b.a22 + a.a13 * b.a32, a.a11 * b.a13 + a.a12 * b.a23 + a.a13 * b.a33,
   a.a21 * b.a11 + a.a22 * b.a21 + a.a23 * b.a31, a.a21 * b.a12 + a.a22 * b.a22 + a.a23 * b.a32, a.a21 * b.a13 + a.a22 * b.a23 + a.a23 * b.a33,
   a.a31 * b.a11 + a.a32 * b.a21 + a.a33 * b.a31, a.a31 * b.a12 + a.a32 * b.a22 + a.a33 * b.a32, a.a31 * b.a13 + a.a32 * b.a23 + a.a33 * b.a33⟩
def Mat.mulVec (a : Mat) (v : Vec) : Vec :=
  ⟨a.a11 * v.x + a.a12 * v.y + a.a13 * v.z, a.a21 * v.x + a.a22 * v.y + a.a23 * v.z, a.a31 * v.x + a.a32 * v.y + a.a33 * v.z⟩

def Vec.zero : Vec := ⟨0, 0, 0⟩
def Vec.add (u v : Vec) : Vec := ⟨u.x + v.x, u.y + v.y, u.z + v.z⟩
def Vec.neg (u : Vec) : Vec := ⟨-u.x, -u.y, -u.z⟩
def Vec.ofTriple (p : Rat × Rat × Rat) : Vec := ⟨p.1, p.2.1, p.2.2⟩

/-- fractional part, Python's `v % 1` (result in [0, 1) for either sign) -/
def fract (x : Rat) : Rat := x - x.floor
def fractV (v : Vec) : Vec := ⟨fract v.x, fract v.y, fract v.z⟩

/-- the representative of an operator modulo integer translations -/
def cls (o : Op) : Op := ⟨o.m, fractV o.t⟩

def ident : Op := ⟨Mat.one, Vec.zero⟩

/-! ### Specification -/

/-- centrosymmetric setting (`LATT.centric`: `self.N > 0`) -/
def centricOf (N : Int) : Bool := decide (N > 0)



/-- composition: `(comp a b) x = a (b x)` -/
def comp (a b : Op) : Op := ⟨a.m.mul b.m, (a.m.mulVec b.t).add a.t⟩

def transl (c : Vec) : Op := ⟨Mat.one, c⟩
def inversion : Op := ⟨Mat.one.neg, Vec.zero⟩

/-- the SHELXL manual: LATT 1=P, 2=I, 3=rhombohedral obverse on hexagonal axes, 4=F, 5=A, 6=B, 7=C -/
def specCentringNat (n : Nat) : List Vec :=
  match n with
  | 2 => [⟨1/2, 1/2, 1/2⟩]
  | 3 => [⟨2/3, 1/3, 1/3⟩, ⟨1/3, 2/3, 2/3⟩]
  | 4 => [⟨0, 1/2, 1/2⟩, ⟨1/2, 0, 1/2⟩, ⟨1/2, 1/2, 0⟩]
  | 5 => [⟨0, 1/2, 1/2⟩]
  | 6 => [⟨1/2, 0, 1/2⟩]
  | 7 => [⟨1/2, 1/2, 0⟩]
  | _ => []

def specCentring (N : Int) : List Vec := specCentringNat N.natAbs

/-- the SHELXL manual: `LATT N[1]` — an omitted number means N = 1 (primitive and centrosymmetric) -/
def lattOf (n : Option Int) : Int := n.getD 1

/-- number of lattice points per cell -/
def mult (N : Int) : Nat := 1 + (specCentring N).length

def signs (centric : Bool) : List Op := if centric then [ident, inversion] else [ident]

/-- `[ c ∘ i ∘ s | s ∈ id :: S, c ∈ 0 :: C, i ∈ [+] or [+, −] ]` -/
def fullGroupWith (C : List Vec) (centric : Bool) (S : List Op) : List Op :=
  (ident :: S).flatMap fun s => (Vec.zero :: C).flatMap fun c => (signs centric).map fun i => comp (transl c) (comp i s)

def fullGroup (N : Int) (S : List Op) : List Op := fullGroupWith (specCentring N) (centricOf N) S

/-! ### the same group referred to another origin

    SHELXL takes any setting: the SYMM lines of a structure whose origin is not the conventional one (origin choice 1 of
    the centrosymmetric groups with the inversion centre off the origin, an axis through (1/8, 0, z), …) carry the
    translations `t + (1 − R) u`, whatever the shift `u` is. -/

/-- the operator referred to an origin moved by `−u`: `(1, u) ∘ o ∘ (1, −u) = (R, t + u − R u)` -/
def shiftOp (u : Vec) (o : Op) : Op := ⟨o.m, (o.t.add u).add (o.m.mulVec u).neg⟩

/-- the setting `LATT N / SYMM S` referred to an origin moved by `−u`, again as LATT + SYMM. For N < 0 the SYMM
    operators are moved. For N > 0 the inversion centre is no longer at the origin: LATT becomes `−N`, and the
    inversion and the inverted copy of every SYMM operator are SYMM lines of their own. -/
def shiftSetting (u : Vec) (N : Int) (S : List Op) : Int × List Op :=
  if centricOf N then
    (-N, shiftOp u inversion :: S.flatMap fun s => [shiftOp u s, shiftOp u (comp inversion s)])
  else (N, S.map (shiftOp u))

/-- a valid LATT number, and the SYMM operators are pairwise distinct (and distinct from the identity) modulo
    centring, inversion (when N > 0) and integer translations: the spec list has no class twice -/
def ValidSetting (N : Int) (S : List Op) : Prop :=
  (1 ≤ N.natAbs ∧ N.natAbs ≤ 7) ∧ ((fullGroup N S).map cls).Nodup

instance (N : Int) (S : List Op) : Decidable (ValidSetting N S) := by unfold ValidSetting; infer_instance

/-- closed under composition modulo ℤ³ -/
def Closed (G : List Op) : Prop := ∀ a ∈ G, ∀ b ∈ G, cls (comp a b) ∈ G.map cls

instance (G : List Op) : Decidable (Closed G) := by unfold Closed; infer_instance

/-! ### executable checkers (Bool, arranged so that the kernel evaluates every class once). `validB`, `nodupB` are
    proved equivalent to `ValidSetting`, `Nodup` in ShelxProps/Lemmas/C11Check.lean (`validB_iff`, `nodupB_iff`); the
    numerator representation `SOp` (`toS`, `ofS`, `compS`, `forceS`) is what the evaluator `groupCheckB` of that file
    works on. `leftClosedSB` is the direct check of closure against ALL members of the list; no theorem rests on it. -/

/-- forces `n` to a literal before it is passed on (kernel evaluation is by name) -/
def strict {β : Type} (n : Nat) (f : Nat → β) : β :=
  match n with
  | 0 => f 0
  | k + 1 => f (k + 1)

/-- any function would do: a hit is confirmed by structural equality -/
def hashOp (o : Op) : Nat :=
  let m := o.m
  let h := [m.a11, m.a12, m.a13, m.a21, m.a22, m.a23, m.a31, m.a32, m.a33].foldl (fun h a => h * 3 + (a + 1).toNat) 0
  [o.t.x, o.t.y, o.t.z].foldl (fun h q => (h * 64 + q.num.toNat) * 64 + q.den) h

/-- the classes of `G`, each with its (forced) hash, handed to `k` -/
def withKeys {β : Type} (G : List Op) (k : List (Nat × Op) → β) : β :=
  match G with
  | [] => k []
  | o :: l => strict (hashOp (cls o)) fun h => withKeys l fun K => k ((h, cls o) :: K)

def memK (K : List (Nat × Op)) (h : Nat) (p : Op) : Bool := K.any fun e => e.1 == h && decide (e.2 = p)

def nodupK : List (Nat × Op) → Bool
  | [] => true
  | e :: K => !memK K e.1 e.2 && nodupK K

/-- no class twice -/
def nodupB (G : List Op) : Bool := withKeys G nodupK

/-- every `g ∘ b` (g ∈ gens, b ∈ G) is in `G` modulo ℤ³ -/
def leftClosedB (gens G : List Op) : Bool :=
  withKeys G fun K => gens.all fun g => G.all fun b => strict (hashOp (cls (comp g b))) fun h => memK K h (cls (comp g b))

/-- generators of the group of a setting: the SYMM operators, the centring translations, the inversion if N > 0 -/
def gensOf (N : Int) (S : List Op) : List Op :=
  S ++ (specCentring N).map transl ++ (if centricOf N then [inversion] else [])

def validB (N : Int) (S : List Op) : Bool :=
  decide (1 ≤ N.natAbs) && decide (N.natAbs ≤ 7) && nodupB (fullGroup N S)

/-! ### closure check on integer numerators over a common denominator `D` (fast in the kernel) -/

/-- an operator whose translation is `(x, y, z) / D` -/
structure SOp where
  m : Mat
  x : Int
  y : Int
  z : Int
deriving DecidableEq, Repr

def ofS (D : Nat) (s : SOp) : Op := ⟨s.m, ⟨(s.x : Rat) / D, (s.y : Rat) / D, (s.z : Rat) / D⟩⟩
def toS (D : Nat) (o : Op) : SOp := ⟨o.m, (o.t.x * D).floor, (o.t.y * D).floor, (o.t.z * D).floor⟩
def normS (D : Nat) (s : SOp) : SOp := ⟨s.m, s.x % D, s.y % D, s.z % D⟩
def compS (a b : SOp) : SOp :=
  ⟨a.m.mul b.m, a.m.a11 * b.x + a.m.a12 * b.y + a.m.a13 * b.z + a.x, a.m.a21 * b.x + a.m.a22 * b.y + a.m.a23 * b.z + a.y,
   a.m.a31 * b.x + a.m.a32 * b.y + a.m.a33 * b.z + a.z⟩

def strictInt {β : Type} (i : Int) (f : Int → β) : β :=
  match i with
  | Int.ofNat n => strict n fun n => f (Int.ofNat n)
  | Int.negSucc n => strict n fun n => f (Int.negSucc n)

/-- hands `s` on with every entry evaluated -/
def forceS {β : Type} (s : SOp) (k : SOp → β) : β :=
  strictInt s.m.a11 fun a11 => strictInt s.m.a12 fun a12 => strictInt s.m.a13 fun a13 =>
  strictInt s.m.a21 fun a21 => strictInt s.m.a22 fun a22 => strictInt s.m.a23 fun a23 =>
  strictInt s.m.a31 fun a31 => strictInt s.m.a32 fun a32 => strictInt s.m.a33 fun a33 =>
  strictInt s.x fun x => strictInt s.y fun y => strictInt s.z fun z =>
  k ⟨⟨a11, a12, a13, a21, a22, a23, a31, a32, a33⟩, x, y, z⟩

def hashS (s : SOp) : Nat :=
  let m := s.m
  [m.a11, m.a12, m.a13, m.a21, m.a22, m.a23, m.a31, m.a32, m.a33].foldl (fun h a => h * 3 + (a + 1).toNat) (((s.x.toNat * 64) + s.y.toNat) * 64 + s.z.toNat)

/-- the list with every element evaluated and paired with its hash -/
def withS {β : Type} (l : List SOp) (k : List (Nat × SOp) → β) : β :=
  match l with
  | [] => k []
  | s :: l => forceS s fun s' => strict (hashS s') fun h => withS l fun K => k ((h, s') :: K)

def memS (K : List (Nat × SOp)) (h : Nat) (p : SOp) : Bool := K.any fun e => e.1 == h && decide (e.2 = p)

/-- `g ∘ b ∈ G` modulo ℤ³ for all `g ∈ gens`, `b ∈ G`, computed on numerators over `D`; also checks that the
    numerators represent the operators exactly -/
def leftClosedSB (D : Nat) (gens G : List Op) : Bool :=
  decide (0 < D) &&
  (gens.all fun g => decide (ofS D (toS D g) = g)) &&
  (G.all fun b => decide (cls (ofS D (toS D b)) = cls b)) &&
  withS (gens.map (toS D)) fun gs => withS (G.map fun b => normS D (toS D b)) fun K =>
    gs.all fun g => K.all fun b => forceS (normS D (compS g.2 b.2)) fun p => strict (hashS p) fun h => memS K h p

/-! ### Tabulated settings (SYMM lines as SHELXL lists them; `order` = point-group order × lattice points,
    from International Tables A) -/

structure Setting where
  name : String
  N : Int
  S : List Op
  order : Nat
deriving Repr

/-! ### direct checks of one tabulated setting (validity, order, closure against every member of the spec list).
    The theorems about the table (`settings_spec`, ShelxProps/Lemmas/C11Check.lean) evaluate the cheaper criterion
    `groupCheckB` instead: closure is only checked for coset representatives against the generators. -/

/-- valid setting, and as many operators as International Tables A list for the group -/
def validOK (e : Setting) : Bool := validB e.N e.S && ((fullGroup e.N e.S).length == e.order)

/-- the spec list is closed under left multiplication by `gs` (numerators over 24) -/
def closedUnder (gs : Setting → List Op) (e : Setting) : Bool := leftClosedSB 24 (gs e) (fullGroup e.N e.S)

def gensOfSetting (e : Setting) : List Op := gensOf e.N e.S

/-- valid setting, spec list closed under its generators, order as in International Tables A -/
def specOK (e : Setting) : Bool := validOK e && closedUnder gensOfSetting e

end Shelx.C11
